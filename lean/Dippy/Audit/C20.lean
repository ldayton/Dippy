import Dippy.Props.C20
#print axioms Dippy.C20.safeId_no_slash
#print axioms Dippy.C20.safeId_nonempty
#print axioms Dippy.C20.cache_confined
#print axioms Dippy.C20.entry_is_not_a_tmp
#print axioms Dippy.C20.cachePath_cases
#print axioms Dippy.C20.nonstring_id_no_cache
#print axioms Dippy.C20.joinBar_nonempty
#print axioms Dippy.C20.build_nonempty
#print axioms Dippy.C20.main_nonempty
#print axioms Dippy.C20.singleLine_append
#print axioms Dippy.C20.joinBar_single
#print axioms Dippy.C20.build_single
#print axioms Dippy.C20.main_single_line
#print axioms Dippy.C20.break_is_space
#print axioms Dippy.C20.splitWs_no_space
#print axioms Dippy.C20.joinSpaceL_single
#print axioms Dippy.C20.collapse_single_line
#print axioms Dippy.C20.flatLen_eq
#print axioms Dippy.C20.writeAt_end
#print axioms Dippy.C20.inv_init
#print axioms Dippy.C20.inv_update
#print axioms Dippy.C20.inv_step
#print axioms Dippy.C20.untorn
#print axioms Dippy.C20.shared_tmp_tears
#print axioms Dippy.C20.t0_statusline
