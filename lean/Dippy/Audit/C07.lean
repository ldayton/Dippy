import Dippy.Props.C07
#print axioms Dippy.C07.last_match_wins
#print axioms Dippy.C07.no_match_iff
#print axioms Dippy.C07.inert
#print axioms Dippy.C07.later_overrides
#print axioms Dippy.C07.literal_prefix
#print axioms Dippy.C07.literal_exact
#print axioms Dippy.C07.rule_decides
#print axioms Dippy.C07.deny_message
#print axioms Dippy.C07.no_rule_builtin
#print axioms Dippy.C07.env_prefix_transparent
#print axioms Dippy.C07.rule_bounds_env_prefix
#print axioms Dippy.C07.rule_on_unquoted_bounds
#print axioms Dippy.C07.rule_through_env_prefix
#print axioms Dippy.C07.rule_through_wrapper
#print axioms Dippy.C07.quote_removal_shape
#print axioms Dippy.C07.quote_removal_examples
#print axioms Dippy.C07.rqLoop_plain
