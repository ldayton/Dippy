import Dippy.Props.C16
#print axioms Dippy.C16.multi_never_ro
#print axioms Dippy.C16.variable_suffix_not_ro
#print axioms Dippy.C16.variable_suffix_pattern
#print axioms Dippy.C16.ro_single
#print axioms Dippy.C16.second_statement_detected
#print axioms Dippy.C16.ro_shape
#print axioms Dippy.C16.write_first_not_ro
#print axioms Dippy.C16.unknown_first_not_ro
#print axioms Dippy.C16.select_into_not_ro
#print axioms Dippy.C16.classify_because
#print axioms Dippy.C16.args_separate
#print axioms Dippy.C16.allowed_cases
#print axioms Dippy.C16.write_arg_asks
#print axioms Dippy.C16.option_value_skipped
#print axioms Dippy.C16.optionWords_sub
#print axioms Dippy.C16.readonly_mode_option
#print axioms Dippy.C16.init_script_asks
#print axioms Dippy.C16.keyword_sets_disjoint
#print axioms Dippy.C16.quoted_pattern_modelled
