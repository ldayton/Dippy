import Dippy.Props.C06
#print axioms Dippy.C06.hook_one_object
#print axioms Dippy.C06.hook_output_shape
#print axioms Dippy.C06.allow_sourced
#print axioms Dippy.C06.hook_allow_only_if
#print axioms Dippy.C06.analysis_provenance
#print axioms Dippy.C06.failure_defers
#print axioms Dippy.C06.not_json_defers
#print axioms Dippy.C06.config_error_asks
#print axioms Dippy.C06.load_raise_defers
#print axioms Dippy.C06.analysis_raise_defers
#print axioms Dippy.C06.bad_cwd_defers
#print axioms Dippy.C06.other_tool_defers
#print axioms Dippy.C06.main_shape
#print axioms Dippy.C06.name_tables
