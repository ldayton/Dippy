import Dippy.Props.C04
#print axioms Dippy.C04.quote_roundtrip
#print axioms Dippy.C04.pyAlnum_sound
#print axioms Dippy.C04.quote_roundtrip_py
#print axioms Dippy.C04.first_word_is_command
#print axioms Dippy.C04.delegate_verdict
#print axioms Dippy.C04.no_help_shortcut_for_launchers
#print axioms Dippy.C04.clusterTakesNext_of_not_dash
#print axioms Dippy.C04.clusterTakesNext_double_dash
#print axioms Dippy.C04.skipWrapperAux_operand
#print axioms Dippy.C04.skip_no_number
#print axioms Dippy.C04.skipWrapperAux_double_dash
#print axioms Dippy.C04.skip_double_dash
#print axioms Dippy.C04.skip_duration
#print axioms Dippy.C04.skip_after_duration
#print axioms Dippy.C04.skip_flag_with_arg
#print axioms Dippy.C04.skip_cluster_with_arg
#print axioms Dippy.C04.skip_flag
#print axioms Dippy.C04.wrapper_duration_facts
#print axioms Dippy.C04.pure_wrapper_exact
#print axioms Dippy.C04.xargs_inner_suffix
#print axioms Dippy.C04.archSkip_suffix
#print axioms Dippy.C04.caffSkip_suffix
#print axioms Dippy.C04.envLoop_suffix
#print axioms Dippy.C04.fdClause_rest_le
#print axioms Dippy.C04.fdLoop_fuel
#print axioms Dippy.C04.fdFinish_keeps
#print axioms Dippy.C04.fdLoop_keeps
#print axioms Dippy.C04.fd_exec_step
#print axioms Dippy.C04.fd_cluster_step
#print axioms Dippy.C04.fd_inner_clauses
#print axioms Dippy.C04.uv_run_inner_suffix
#print axioms Dippy.C04.tar_program_option_asks
#print axioms Dippy.C04.tar_all_to_commands
#print axioms Dippy.C04.tar_delegates_only_extract
#print axioms Dippy.C04.tar_allow_is_list
#print axioms Dippy.C04.shell_c_verbatim
#print axioms Dippy.C04.afterCFlag_position
#print axioms Dippy.C04.shell_script_operand_asks
#print axioms Dippy.C04.findLoop_spec
#print axioms Dippy.C04.find_all_clauses
#print axioms Dippy.C04.script_inner_suffix
#print axioms Dippy.C04.script_unknown_option_asks
#print axioms Dippy.C04.launchers_covered
