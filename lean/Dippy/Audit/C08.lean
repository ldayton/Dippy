import Dippy.Props.C08
#print axioms Dippy.C08.same_atoms
#print axioms Dippy.C08.verdict_after_rule
#print axioms Dippy.C08.redirect_atom_unchanged
#print axioms Dippy.C08.inject_atom_unchanged
#print axioms Dippy.C08.unknown_atom_unchanged
#print axioms Dippy.C08.text_atom
#print axioms Dippy.C08.checkTargets_unchanged
#print axioms Dippy.C08.builtin_unchanged
#print axioms Dippy.C08.simpleCmd_unmatched
#print axioms Dippy.C08.proper_atom_unmatched
#print axioms Dippy.C08.unquoted_atom_unmatched
#print axioms Dippy.C08.proper_atom_matched
#print axioms Dippy.C08.atom_survives
#print axioms Dippy.C08.redirect_survives
#print axioms Dippy.C08.unmatched_command_survives
#print axioms Dippy.C08.unmatched_tree_unchanged
