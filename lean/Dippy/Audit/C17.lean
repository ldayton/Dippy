import Dippy.Props.C17
#print axioms Dippy.C17.splitOpts_cons
#print axioms Dippy.C17.findScript_cons
#print axioms Dippy.C17.scanCluster_eq
#print axioms Dippy.C17.cluster_agrees
#print axioms Dippy.C17.pythonRuns_cons
#print axioms Dippy.C17.safeIn_cons
#print axioms Dippy.C17.readWord_goes_on
#print axioms Dippy.C17.spec_cons
#print axioms Dippy.C17.spec_holds
#print axioms Dippy.C17.allowed_why
#print axioms Dippy.C17.approval_needs
#print axioms Dippy.C17.decideV_allowed
#print axioms Dippy.C17.runs_analysed_file
#print axioms Dippy.C17.tilde_refused
#print axioms Dippy.C17.unacceptable_asks
#print axioms Dippy.C17.tilde_script_asks
#print axioms Dippy.C17.readWord_script
#print axioms Dippy.C17.split_prefix
#print axioms Dippy.C17.program_args_inert
#print axioms Dippy.C17.stdin_program_asks
#print axioms Dippy.C17.inline_code_asks
#print axioms Dippy.C17.file_gates
#print axioms Dippy.C17.module_tables_disjoint
#print axioms Dippy.C17.approved_covers
#print axioms Dippy.C17.reports_are_local
#print axioms Dippy.C17.ite_cons_eq_nil
#print axioms Dippy.C17.moduleOk_iff
#print axioms Dippy.C17.import_local
#print axioms Dippy.C17.importFrom_local
#print axioms Dippy.C17.name_local
#print axioms Dippy.C17.attribute_local
#print axioms Dippy.C17.async_local
#print axioms Dippy.C17.approved_imports
#print axioms Dippy.C17.approved_from_imports
#print axioms Dippy.C17.approved_names
#print axioms Dippy.C17.approved_attributes
#print axioms Dippy.C17.approved_no_async
#print axioms Dippy.C17.refused_builtins
#print axioms Dippy.C17.dangerous_modules_listed
#print axioms Dippy.C17.visitor_shape
#print axioms Dippy.C17.descends_matches_shape
#print axioms Dippy.C17.approved_command_runs_checked_script
