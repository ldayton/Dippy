import Dippy.Props.C15
#print axioms Dippy.C15.logging_never_raises
#print axioms Dippy.C15.log_transparent
#print axioms Dippy.C15.log_transparent_full_fails
#print axioms Dippy.C15.failure_disables
#print axioms Dippy.C15.one_line_per_decision
#print axioms Dippy.C15.logEntry_eq
#print axioms Dippy.C15.mem_logEntry
#print axioms Dippy.C15.entry_keys
#print axioms Dippy.C15.full_only_if_set
#print axioms Dippy.C15.no_path_no_log
#print axioms Dippy.C15.concurrent_lines
#print axioms Dippy.C15.concurrent_count
