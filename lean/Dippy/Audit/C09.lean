import Dippy.Props.C09
#print axioms Dippy.C09.classifyToken_path
#print axioms Dippy.C09.expandToken_denotes
#print axioms Dippy.C09.normalizePath_denotes
#print axioms Dippy.C09.spelling_invariant
#print axioms Dippy.C09.command_word_denotes
#print axioms Dippy.C09.detour
#print axioms Dippy.C09.dot_segment
#print axioms Dippy.C09.repeated_slash
#print axioms Dippy.C09.trailing_slash
#print axioms Dippy.C09.confined
#print axioms Dippy.C09.star_no_slash
#print axioms Dippy.C09.question_no_slash
