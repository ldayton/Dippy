import Dippy.Props.C18
#print axioms Dippy.C18.lru_transparent
#print axioms Dippy.C18.run_transparent
#print axioms Dippy.C18.analysis_cache_free
#print axioms Dippy.C18.step_transparent
#print axioms Dippy.C18.history_cache
#print axioms Dippy.C18.history_free
#print axioms Dippy.C18.repeat_same
#print axioms Dippy.C18.cache_bounded
#print axioms Dippy.C18.log_rearmed
#print axioms Dippy.C18.inventory_covered
#print axioms Dippy.C18.shape_facts
