import Dippy.Props.C14
#print axioms Dippy.C14.mcp_last
#print axioms Dippy.C14.mcp_none_iff
#print axioms Dippy.C14.mcp_depends_only_on_mcp_rules
#print axioms Dippy.C14.after_mcp_depends_only_on_after_mcp_rules
#print axioms Dippy.C14.shell_ignores_mcp
#print axioms Dippy.C14.shell_verdict_ignores_mcp
#print axioms Dippy.C14.line_family
#print axioms Dippy.C14.isMcpLine_true
#print axioms Dippy.C14.isMcpLine_false
#print axioms Dippy.C14.mcp_lines_invisible_to_shell
#print axioms Dippy.C14.shell_lines_invisible_to_mcp
#print axioms Dippy.C14.merge_mcp_only
#print axioms Dippy.C14.merge_shell_only
#print axioms Dippy.C14.layered_mcp_ignores_shell
#print axioms Dippy.C14.layered_shell_ignores_mcp
