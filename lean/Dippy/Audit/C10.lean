import Dippy.Props.C10
#print axioms Dippy.C10.find_nearest
#print axioms Dippy.C10.find_none
#print axioms Dippy.C10.ObsEq.refl
#print axioms Dippy.C10.ObsEq.trans
#print axioms Dippy.C10.ObsEq.symm
#print axioms Dippy.C10.merge_congr
#print axioms Dippy.C10.merge_empty_right
#print axioms Dippy.C10.splitLinesAux_append
#print axioms Dippy.C10.splitLines_join
#print axioms Dippy.C10.parse_empty
#print axioms Dippy.C10.merged_eq
#print axioms Dippy.C10.overlay_parse
#print axioms Dippy.C10.layers_concat
#print axioms Dippy.C10.load_is_merged
