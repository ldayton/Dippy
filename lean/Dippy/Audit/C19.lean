import Dippy.Props.C19
#print axioms Dippy.C19.post_output
#print axioms Dippy.C19.post_no_decision
#print axioms Dippy.C19.after_last
#print axioms Dippy.C19.after_mcp_last
#print axioms Dippy.C19.silent_when_no_rule
#print axioms Dippy.C19.after_rules_invisible
#print axioms Dippy.C19.isAfterLine_true
#print axioms Dippy.C19.after_lines_invisible
