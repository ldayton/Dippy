import Dippy.Props.C01
#print axioms Dippy.C01.no_hidden_execution
#print axioms Dippy.C01.scan_item_allowed
#print axioms Dippy.C01.text_substitutions_allowed
#print axioms Dippy.C01.approved_string
#print axioms Dippy.C01.no_hidden_execution_deep
#print axioms Dippy.C01.scan_rescans_quoted_body
#print axioms Dippy.C01.kinds_accounted
#print axioms Dippy.C01.dispatched_kinds
