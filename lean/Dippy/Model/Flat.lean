/-
R1, flattened: the *syntactic* list of atoms of a tree.  `flat` depends on the world only through the four
fields of `Syn`; which rule, table or handler answers an atom gets is `atomDecisions`.  `Lemmas/Flat.lean` proves

    (aNode w rec h n cwd r).action = S ((flat w.syn n cwd r).flatMap (atomDecisions w rec h))

so that every statement comparing two worlds, or bounding a verdict by its parts,
becomes a statement about a list.
-/
import Dippy.Model.Analyzer

namespace Dippy

inductive Atom where
  /-- the command proper: the words of one `command` node and the length of its assignment prefix -/
  | proper (words : List String) (baseIdx : Nat) (cwd : String) (remote : Bool)
  /-- the same command as bash reads it: the words after quote removal (analysed as well; the stricter verdict counts) -/
  | unquotedCmd (words unquoted : List String) (baseIdx : Nat) (cwd : String) (remote : Bool)
  /-- the injection-risk prompt of a pure `$(…)` argument (part of that substitution) -/
  | inject (ctx : CmdCtx) (wd : Word) (pos : Nat)
  /-- one file redirection (local analysis only) -/
  | redir (op target cwd : String)
  /-- a raw text handed to the `$(`/backtick scanner; `ps`: process substitutions are looked for as well -/
  | text (ps : Bool) (s : Option String) (cwd : String) (remote : Bool)
  /-- a node kind the analyzer does not know -/
  | unknown (kind : String)

/-- step 3 of `_analyze_command` -/
def properDecisions (w : World) (rec : Rec) (h : HelpTables) (words : List String) (baseIdx : Nat)
    (cwd : String) (remote : Bool) : List Decision :=
  if words.isEmpty then []
  else
    let base := words.getD baseIdx ""
    if base == "[" || base == "test" then [⟨.allow, "conditional test"⟩]
    else if baseIdx ≥ words.length then [⟨.allow, "env assignment"⟩]
    else [simpleCmd w rec h (words.length + 1) (words.drop baseIdx) cwd remote]

/-- the second pass of step 3: reached exactly when the first one reaches `_analyze_simple_command` -/
def unquotedDecisions (w : World) (rec : Rec) (h : HelpTables) (words unquoted : List String) (baseIdx : Nat)
    (cwd : String) (remote : Bool) : List Decision :=
  if words.isEmpty then []
  else
    let base := words.getD baseIdx ""
    if base == "[" || base == "test" then []
    else if baseIdx ≥ words.length then []
    else [simpleCmd w rec h (unquoted.length + 1) (unquoted.drop baseIdx) cwd remote]

def atomDecisions (w : World) (rec : Rec) (h : HelpTables) : Atom → List Decision
  | .proper words baseIdx cwd remote => properDecisions w rec h words baseIdx cwd remote
  | .unquotedCmd words unquoted baseIdx cwd remote => unquotedDecisions w rec h words unquoted baseIdx cwd remote
  | .inject ctx wd pos => injectionRisk w ctx wd pos
  | .redir op target cwd => redirectDecision w op target cwd
  | .text ps s cwd remote => scanArg rec ps s cwd remote
  | .unknown k => [⟨.ask, "unrecognized construct: " ++ k⟩]

/-- the raw texts of the expansion kinds that only carry text -/
def expansionAtoms (wd : Word) (p : Part) (cwd : String) (remote : Bool) : List Atom :=
  match p with
  | .param name _ arg => [.text true (some name) cwd remote, .text true arg cwd remote]
  | .paramLen name => [.text true (some name) cwd remote]
  | .paramIndirect name _ arg => [.text true (some name) cwd remote, .text true arg cwd remote]
  | .arith _ => (arithTexts wd.value).map fun t => .text false (some t) cwd remote
  | .arithDeprecated expr => [.text false (some expr) cwd remote]
  | _ => []

/-- the part of a world the *shape* of the flattening depends on -/
structure Syn where
  hasHandler : String → Bool
  simpleSafe : String → Bool
  resolveCd : String → String → String
  arithWalked : List String

def World.syn (w : World) : Syn := ⟨w.hasHandler, w.simpleSafe, w.resolveCd, w.arithWalked⟩

@[simp] theorem World.syn_hasHandler (w : World) : w.syn.hasHandler = w.hasHandler := rfl
@[simp] theorem World.syn_simpleSafe (w : World) : w.syn.simpleSafe = w.simpleSafe := rfl
@[simp] theorem World.syn_resolveCd (w : World) : w.syn.resolveCd = w.resolveCd := rfl
@[simp] theorem World.syn_arithWalked (w : World) : w.syn.arithWalked = w.arithWalked := rfl

section
variable (w : Syn)

mutual

def flat : Node → String → Bool → List Atom
  | .command ws rs, cwd, remote =>
    let ctx := mkCmdCtxS w.hasHandler w.simpleSafe ws
    flatCmdWords ctx ws 0 cwd remote ++ flatRedirects rs cwd remote
      ++ [.proper ctx.words ctx.baseIdx cwd remote, .unquotedCmd ctx.words ctx.unquoted ctx.baseIdx cwd remote]
  | .pipeline cmds, cwd, remote => flatNodes cmds cwd remote
  | .list parts, cwd, remote => flatListPartsCd parts cwd (effectiveCwdS w.resolveCd parts cwd remote) remote
  | .ifN c t e rs, cwd, remote =>
    flat c cwd remote ++ flat t cwd remote ++ flatOptNode e cwd remote ++ flatRedirects rs cwd remote
  | .whileN _ c b rs, cwd, remote => flat c cwd remote ++ flat b cwd remote ++ flatRedirects rs cwd remote
  | .forN _ ws b rs, cwd, remote => flat b cwd remote ++ flatWords ws cwd remote ++ flatRedirects rs cwd remote
  | .forArith i c s b rs, cwd, remote =>
    flat b cwd remote ++ [.text false (some i) cwd remote, .text false (some c) cwd remote, .text false (some s) cwd remote]
      ++ flatRedirects rs cwd remote
  | .selectN _ ws b rs, cwd, remote => flat b cwd remote ++ flatWords ws cwd remote ++ flatRedirects rs cwd remote
  | .caseN wd pats rs, cwd, remote =>
    flatOptWord wd cwd remote ++ flatCasePats pats cwd remote ++ flatRedirects rs cwd remote
  | .function _ b, cwd, remote => flat b cwd remote
  | .subshell b rs, cwd, remote => flat b cwd remote ++ flatRedirects rs cwd remote
  | .braceGroup b rs, cwd, remote => flat b cwd remote ++ flatRedirects rs cwd remote
  | .time p, cwd, remote => flat p cwd remote
  | .negation p, cwd, remote => flat p cwd remote
  | .coproc c, cwd, remote => flat c cwd remote
  | .condExpr b rs, cwd, remote => flatOptCond b cwd remote ++ flatRedirects rs cwd remote
  | .arithCmd e raw rs, cwd, remote =>
    (match raw with
     | some t => [.text false (some t) cwd remote]
     | none => flatOptArith e cwd remote) ++ flatRedirects rs cwd remote
  | .comment, _, _ => []
  | .empty, _, _ => []
  | .operator _, _, _ => [.unknown "operator"]
  | .other k, _, _ => [.unknown k]

def flatNodes : List Node → String → Bool → List Atom
  | [], _, _ => []
  | n :: ns, cwd, remote => flat n cwd remote ++ flatNodes ns cwd remote

def flatListPartsCd : List Node → String → String → Bool → List Atom
  | [], _, _, _ => []
  | n :: ns, cwd0, cwd, remote =>
    if isOperator n then flatListPartsCd ns cwd0 cwd remote
    else flat n cwd0 remote ++ flatListParts ns cwd remote

def flatListParts : List Node → String → Bool → List Atom
  | [], _, _ => []
  | n :: ns, cwd, remote =>
    if isOperator n then flatListParts ns cwd remote
    else flat n cwd remote ++ flatListParts ns cwd remote

def flatOptNode : Option Node → String → Bool → List Atom
  | none, _, _ => []
  | some n, cwd, remote => flat n cwd remote

def flatCmdWords (ctx : CmdCtx) : List Word → Nat → String → Bool → List Atom
  | [], _, _, _ => []
  | wd :: ws, pos, cwd, remote =>
    (match wd with
     | .mk v ps =>
       (match assignSubscript v with
        | some t => [.text false (some t) cwd remote]
        | none => [])
       ++ flatCmdParts ctx wd pos ps cwd remote)
    ++ flatCmdWords ctx ws (pos + 1) cwd remote

def flatCmdParts (ctx : CmdCtx) (wd : Word) (pos : Nat) : List Part → String → Bool → List Atom
  | [], _, _ => []
  | p :: ps, cwd, remote =>
    (match p with
     | .procsub _ cmd => flat cmd cwd remote
     | .cmdsub cmd => flat cmd cwd remote ++ [.inject ctx wd pos]
     | .array elems => flatWords elems cwd remote
     | other => expansionAtoms wd other cwd remote)
    ++ flatCmdParts ctx wd pos ps cwd remote

def flatWordParts (wd : Word) : List Part → String → Bool → List Atom
  | [], _, _ => []
  | p :: ps, cwd, remote =>
    (match p with
     | .cmdsub cmd => flat cmd cwd remote
     | .procsub _ cmd => flat cmd cwd remote
     | .array elems => flatWords elems cwd remote
     | other => expansionAtoms wd other cwd remote)
    ++ flatWordParts wd ps cwd remote

def flatWord : Word → String → Bool → List Atom
  | .mk v ps, cwd, remote => flatWordParts (.mk v ps) ps cwd remote

def flatCondOperand (regex : Bool) : Word → String → Bool → List Atom
  | .mk v ps, cwd, remote =>
    flatWordParts (.mk v ps) ps cwd remote ++ (if condRescan v ps regex then [.text true (some v) cwd remote] else [])

def flatWords : List Word → String → Bool → List Atom
  | [], _, _ => []
  | wd :: ws, cwd, remote => flatWord wd cwd remote ++ flatWords ws cwd remote

def flatOptWord : Option Word → String → Bool → List Atom
  | none, _, _ => []
  | some wd, cwd, remote => flatWord wd cwd remote

def flatRedirects : List Redir → String → Bool → List Atom
  | [], _, _ => []
  | r :: rs, cwd, remote =>
    (match r with
     | .heredoc quoted content => if !quoted then [.text false (some content) cwd remote] else []
     | .redirect op tgt =>
       match tgt with
       | some t => flatWord t cwd remote ++ (if remote || Py.startsWith t.value "&" then [] else [.redir op (wordValue t) cwd])
       | none => if remote then [] else [.redir op "" cwd]
     | .other _ => [])
    ++ flatRedirects rs cwd remote

def flatCasePats : List CasePat → String → Bool → List Atom
  | [], _, _ => []
  | .mk pat body :: ps, cwd, remote =>
    [.text true (some pat) cwd remote] ++ flatOptNode body cwd remote ++ flatCasePats ps cwd remote

def flatCond : Cond → String → Bool → List Atom
  | .unary _ o, cwd, remote => flatCondOperand false o cwd remote
  | .binary op l r, cwd, remote => flatCondOperand false l cwd remote ++ flatCondOperand (op == "=~") r cwd remote
  | .and l r, cwd, remote => flatCond l cwd remote ++ flatCond r cwd remote
  | .or l r, cwd, remote => flatCond l cwd remote ++ flatCond r cwd remote
  | .not o, cwd, remote => flatCond o cwd remote
  | .paren i, cwd, remote => flatCond i cwd remote
  | .other _, _, _ => []

def flatOptCond : Option Cond → String → Bool → List Atom
  | none, _, _ => []
  | some c, cwd, remote => flatCond c cwd remote

def flatArith : Arith → String → Bool → List Atom
  | .cmdsub cmd, cwd, remote => flat cmd cwd remote
  | .node _ attrs, cwd, remote =>
    let rs := flatArithAttrs attrs cwd remote
    w.arithWalked.flatMap fun a => ((rs.find? (fun kv => kv.1 == a)).map (·.2)).getD []

def flatArithAttrs : List (String × AVal) → String → Bool → List (String × List Atom)
  | [], _, _ => []
  | (k, v) :: rest, cwd, remote =>
    (k, match v with
        | .one x => flatArith x cwd remote
        | .many _ => []
        | .str _ => []) :: flatArithAttrs rest cwd remote

def flatOptArith : Option Arith → String → Bool → List Atom
  | none, _, _ => []
  | some e, cwd, remote => flatArith e cwd remote

end
end

/-- the flattened decisions of a node -/
def leaves (w : World) (rec : Rec) (h : HelpTables) (n : Node) (cwd : String) (remote : Bool) : List Decision :=
  (flat w.syn n cwd remote).flatMap (atomDecisions w rec h)

/-- the text atom of an array-element assignment's subscript -/
def subscriptAtoms (v : String) (cwd : String) (r : Bool) : List Atom :=
  match assignSubscript v with
  | some t => [.text false (some t) cwd r]
  | none => []

section
variable (s : Syn)

theorem flatNodes_cons (n : Node) (ns : List Node) (cwd : String) (r : Bool) :
    flatNodes s (n :: ns) cwd r = flat s n cwd r ++ flatNodes s ns cwd r := by
  rw [flatNodes]

theorem flatWords_cons (wd : Word) (ws : List Word) (cwd : String) (r : Bool) :
    flatWords s (wd :: ws) cwd r = flatWord s wd cwd r ++ flatWords s ws cwd r := by
  rw [flatWords]

theorem flatWord_mk (v : String) (ps : List Part) (cwd : String) (r : Bool) :
    flatWord s (.mk v ps) cwd r = flatWordParts s (.mk v ps) ps cwd r :=
  rfl

/-- stated for a head `.mk v ps`: the model matches on the word -/
theorem flatCmdWords_cons (ctx : CmdCtx) (v : String) (ps : List Part) (ws : List Word) (pos : Nat) (cwd : String)
    (r : Bool) :
    flatCmdWords s ctx (.mk v ps :: ws) pos cwd r
      = subscriptAtoms v cwd r ++ flatCmdParts s ctx (.mk v ps) pos ps cwd r
        ++ flatCmdWords s ctx ws (pos + 1) cwd r := by
  -- `rw [flatCmdWords]` fails on the nested `match`, and `unfold` alone would open both sides
  conv => lhs; unfold flatCmdWords
  unfold subscriptAtoms
  cases hs : assignSubscript v <;> simp [hs]

theorem flatCasePats_cons (pat : String) (body : Option Node) (ps : List CasePat) (cwd : String) (r : Bool) :
    flatCasePats s (.mk pat body :: ps) cwd r
      = (Atom.text true (some pat) cwd r :: flatOptNode s body cwd r) ++ flatCasePats s ps cwd r := by
  rw [flatCasePats]; rfl

theorem flatRedirects_nil (cwd : String) (r : Bool) : flatRedirects s [] cwd r = [] :=
  rfl

theorem flatRedirects_cons (rd : Redir) (rs : List Redir) (cwd : String) (r : Bool) :
    flatRedirects s (rd :: rs) cwd r = flatRedirects s [rd] cwd r ++ flatRedirects s rs cwd r := by
  conv => lhs; unfold flatRedirects
  conv => rhs; lhs; unfold flatRedirects
  rw [flatRedirects_nil, List.append_nil]

theorem flatRedirects_single (rd : Redir) (cwd : String) (r : Bool) :
    flatRedirects s [rd] cwd r = (match rd with
      | .heredoc quoted content => if !quoted then [.text false (some content) cwd r] else []
      | .redirect op tgt =>
        (match tgt with
         | some t =>
           flatWord s t cwd r ++ (if r || Py.startsWith t.value "&" then [] else [.redir op (wordValue t) cwd])
         | none => if r then [] else [.redir op "" cwd])
      | .other _ => []) := by
  conv => lhs; unfold flatRedirects
  rw [flatRedirects_nil, List.append_nil]

theorem flatWordParts_nil (wd : Word) (cwd : String) (r : Bool) : flatWordParts s wd [] cwd r = [] :=
  rfl

theorem flatWordParts_cons (wd : Word) (p : Part) (ps : List Part) (cwd : String) (r : Bool) :
    flatWordParts s wd (p :: ps) cwd r = flatWordParts s wd [p] cwd r ++ flatWordParts s wd ps cwd r := by
  conv => lhs; unfold flatWordParts
  conv => rhs; lhs; unfold flatWordParts
  rw [flatWordParts_nil, List.append_nil]

theorem flatWordParts_single (wd : Word) (p : Part) (cwd : String) (r : Bool) :
    flatWordParts s wd [p] cwd r = (match p with
      | .cmdsub cmd => flat s cmd cwd r
      | .procsub _ cmd => flat s cmd cwd r
      | .array elems => flatWords s elems cwd r
      | other => expansionAtoms wd other cwd r) := by
  conv => lhs; unfold flatWordParts
  rw [flatWordParts_nil, List.append_nil]

theorem flatCmdParts_nil (ctx : CmdCtx) (wd : Word) (pos : Nat) (cwd : String) (r : Bool) :
    flatCmdParts s ctx wd pos [] cwd r = [] :=
  rfl

theorem flatCmdParts_cons (ctx : CmdCtx) (wd : Word) (pos : Nat) (p : Part) (ps : List Part) (cwd : String) (r : Bool) :
    flatCmdParts s ctx wd pos (p :: ps) cwd r
      = flatCmdParts s ctx wd pos [p] cwd r ++ flatCmdParts s ctx wd pos ps cwd r := by
  conv => lhs; unfold flatCmdParts
  conv => rhs; lhs; unfold flatCmdParts
  rw [flatCmdParts_nil, List.append_nil]

theorem flatCmdParts_single (ctx : CmdCtx) (wd : Word) (pos : Nat) (p : Part) (cwd : String) (r : Bool) :
    flatCmdParts s ctx wd pos [p] cwd r = (match p with
      | .procsub _ cmd => flat s cmd cwd r
      | .cmdsub cmd => flat s cmd cwd r ++ [.inject ctx wd pos]
      | .array elems => flatWords s elems cwd r
      | other => expansionAtoms wd other cwd r) := by
  conv => lhs; unfold flatCmdParts
  rw [flatCmdParts_nil, List.append_nil]

/-- in the terms of `Child.listFirst` / `Child.list`; `aListPartsCd_eq` has the `filter` form of
    `C03.listPartVerdicts` -/
theorem flatListPartsCd_eq (ns : List Node) (cwd0 cwd : String) (r : Bool) :
    flatListPartsCd s ns cwd0 cwd r
      = (firstNonOp ns).elim [] (flat s · cwd0 r) ++ flatListParts s (restAfterFirstNonOp ns) cwd r := by
  induction ns with
  | nil => rfl
  | cons n ns ih =>
    rw [flatListPartsCd, firstNonOp, restAfterFirstNonOp]
    cases isOperator n <;> simp [ih]

theorem flatListParts_eq (ns : List Node) (cwd : String) (r : Bool) :
    flatListParts s ns cwd r = flatNodes s (ns.filter fun n => !isOperator n) cwd r := by
  induction ns with
  | nil => rfl
  | cons n ns ih =>
    rw [flatListParts, List.filter_cons]
    cases isOperator n <;> simp [ih, flatNodes_cons]

end

end Dippy
