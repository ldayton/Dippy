/-
C06 — Hook protocol is total and fails closed.

`HookEnv` supplies *arbitrary* answers for everything external (cwd resolution, config loading,
analysis, tokenisation, log sinks – each may also raise); `Stdin` is any byte string: undecodable,
not JSON, or a JSON value of any shape.  All theorems are ∀ env, ∀ stdin.
-/
import Dippy.Props.C19
import Dippy.Generated.Hook

namespace Dippy.C06

/-- **one object**: for a pre-execution event stdout is exactly one JSON object -/
theorem hook_one_object (env : HookEnv) (stdin : Stdin) (hpre : isPostEvent stdin = false) :
    ∃ o, hook env stdin = [.json (.obj o)] := by
  rcases hook_inv env stdin with h | ⟨j, m, r, cwd, -, -, -, hs, h⟩
  · exact ⟨[], h⟩
  · rw [h]; rw [hpre] at hs
    cases hs <;> cases m <;> exact ⟨_, rfl⟩

/-- for *every* stdin the output is one JSON object, one feedback line, or nothing -/
theorem hook_output_shape (env : HookEnv) (stdin : Stdin) :
    (∃ o, hook env stdin = [.json (.obj o)]) ∨ hook env stdin = [] ∨ ∃ t, hook env stdin = [.text t] := by
  cases hp : isPostEvent stdin with
  | false => exact .inl (hook_one_object env stdin hp)
  | true =>
    rcases C19.post_output env stdin hp with h | ⟨t, h⟩ | h
    · exact .inr (.inl h)
    · exact .inr (.inr ⟨_, h⟩)
    · exact .inl ⟨[], h⟩

theorem allow_sourced (env : HookEnv) (stdin : Stdin) (h : decisionOfOut (hook env stdin) = some "allow") :
    ∃ j m r cwd s, stdin = .value j ∧ hookBody env j = some (m, r) ∧ hookCwd env j = some cwd
      ∧ Sourced env cwd false r ∧ r.verdict = some (.allow, s) := by
  rcases hook_inv env stdin with h' | ⟨j, m, r, cwd, hj, hb, hc, hs, h'⟩ <;> rw [h'] at h
  · cases h
  · rw [decisionOf_render] at h
    obtain ⟨⟨a, s⟩, hv, ha⟩ := Option.map_eq_some_iff.mp h
    cases Action.eq_allow_of_toString ha
    rw [hs.pre_of_verdict hv] at hs
    exact ⟨j, m, r, cwd, s, hj, hb, hc, hs, hv⟩

/-- **allow only if**: an allow answer comes from a completed analysis that said allow, an MCP
    rule that says allow, or a bypass mode – nothing else (`allow_sourced` says which analysis, which rule) -/
theorem hook_allow_only_if (env : HookEnv) (stdin : Stdin)
    (h : decisionOfOut (hook env stdin) = some "allow") :
    ∃ j m r, stdin = .value j ∧ hookBody env j = some (m, r) ∧
      ((∃ d cmd cfg cwd, r = .analysis d cmd cfg cwd ∧ d.action = .allow)
       ∨ (∃ mt, r = .mcp mt ∧ mt.decision = .allow)
       ∨ (∃ pm, r = .bypass pm)) := by
  obtain ⟨j, m, r, cwd, s, hj, hb, -, hs, hv⟩ := allow_sourced env stdin h
  refine ⟨j, m, r, hj, hb, ?_⟩
  cases hs with
  | defer => cases hv
  | configError => cases hv
  | bypass pm => exact .inr (.inr ⟨pm, rfl⟩)
  | mcp => exact .inr (.inl ⟨_, rfl, congrArg Prod.fst (Option.some.inj hv)⟩)
  | analysis => exact .inl ⟨_, _, _, _, rfl, congrArg Prod.fst (Option.some.inj hv)⟩

/-- an analysis result really is the analysis of a well-formed shell command under the loaded config -/
theorem analysis_provenance (env : HookEnv) (j : PJson) (m : Mode) (d : Decision) (cmd : String) (cfg : Config)
    (cwd : String) (h : hookBody env j = some (m, .analysis d cmd cfg cwd)) :
    env.loadConfig cwd = .ok cfg ∧ env.analyze cmd cfg cwd = some d ∧ hookCwd env j = some cwd := by
  obtain ⟨cwd', hc, hs⟩ := hookBody_sound h
  generalize isPostEvent (.value j) = p at hs
  cases hs with
  | analysis hl _ ha => exact ⟨hl, ha, hc⟩

/-- every failure path defers: whenever anything inside the `try` raises, stdout is `{}` -/
theorem failure_defers (env : HookEnv) (j : PJson) (h : hookBody env j = none) :
    hook env (.value j) = [.json (.obj [])] := by
  simp [hook, h]

theorem not_json_defers (env : HookEnv) : hook env .notJson = [.json (.obj [])] ∧ hook env .undecodable = [.json (.obj [])] :=
  ⟨rfl, rfl⟩

/-- a config layer that cannot be read: ask (pre-execution) or nothing (post-execution), never allow -/
theorem config_error_asks (env : HookEnv) (j : PJson) (m : Mode) (cwd ev : String) (msg : String)
    (hm : hookMode env j = some m) (hc : hookCwd env j = some cwd)
    (he : j.get "hook_event_name" (.str "PreToolUse") = some (.str ev))
    (hl : env.loadConfig cwd = .configError msg) :
    hook env (.value j) = if ev == "PostToolUse" then [] else [.json (envelope m .ask ("config error: " ++ msg))] := by
  by_cases hev : (ev == "PostToolUse") = true <;> simp [hook, hookBody, hm, hc, he, hl, PJson.isStr, hev, render]

theorem load_raise_defers (env : HookEnv) (j : PJson) (m : Mode) (cwd : String) (ev : PJson)
    (hm : hookMode env j = some m) (hc : hookCwd env j = some cwd)
    (he : j.get "hook_event_name" (.str "PreToolUse") = some ev)
    (hl : env.loadConfig cwd = .raised) :
    hook env (.value j) = [.json (.obj [])] := by
  simp [hook, hookBody, hm, hc, he, hl]

/-- an analysis that raises (at any point) defers -/
theorem analysis_raise_defers (env : HookEnv) (j : PJson) (cfg : Config) (cwd cmd : String)
    (hb : bypassOf env j false = some none) (ha : env.analyze cmd cfg cwd = none) :
    shellPath env j cfg cwd false (.str cmd) = none := by
  simp [shellPath, hb, ha]

/-- an unusable cwd (wrong type, or `Path(..).resolve()` raises) defers -/
theorem bad_cwd_defers (env : HookEnv) (j : PJson) (h : hookCwd env j = none) :
    hook env (.value j) = [.json (.obj [])] := by
  unfold hook hookBody
  cases hm : hookMode env j <;> simp [hm, h]

/-- non-shell, non-MCP tools: `{}` -/
theorem other_tool_defers (env : HookEnv) (j : PJson) (cfg : Config) (cwd tool : String) (p : Bool) (ti : PJson)
    (m : Mode) (hm : m ≠ .cursor)
    (ht : j.get "tool_name" (.str "") = some (.str tool)) (hti : j.get "tool_input" (.obj []) = some ti)
    (hn : Py.startsWith tool "mcp__" = false) (hs : env.shellToolNames.contains tool = false) :
    route env m j cfg cwd p = some .defer := by
  rw [route_tool hm ht hti, hn, hs]
  rfl

/-! ### the shape of `main()` itself (T0 obligations, re-checked against the source on every run) -/

/-- `main` = `global MODE; setup_logging(); try: … except json.JSONDecodeError: print({})
    except Exception: print({})`, nothing after the `try`, no handler re-raises or exits, and bin/dippy-hook
    just calls `main()`: so the process exits 0 and every exception inside the `try` prints `{}` -/
theorem main_shape :
    Generated.mainTryCount = 1
    ∧ Generated.mainHandlers = ["json.JSONDecodeError", "Exception"]
    ∧ Generated.mainBeforeTry = ["global MODE", "setup_logging()"]
    ∧ Generated.mainAfterTry = 0
    ∧ Generated.mainHandlersPrintEmpty = true
    ∧ Generated.entryCallsMain = true := ⟨rfl, rfl, rfl, rfl, rfl, rfl⟩

theorem name_tables :
    Generated.bypassModes = ["bypassPermissions", "dontAsk"]
    ∧ Generated.shellToolNames = ["Bash", "execute_shell", "run_shell", "run_shell_command", "shell"]
    ∧ Generated.geminiNames.all (fun n => Generated.shellToolNames.contains n) = true :=
  ⟨rfl, rfl, by decide +kernel⟩

end Dippy.C06
