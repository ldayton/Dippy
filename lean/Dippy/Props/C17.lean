/-
C17 — auto-approved Python: the file Dippy analyses is the file CPython would run (argv grammar `pythonRuns`, written
independently of the handler), and the AST checker (`SafetyAnalyzer`, Model/PyAst.lean) reaches every node of it.
CPython's run-time behaviour is not modelled: "a script that passes the checker raises no dangerous audit event" is
exercised by T2 with an audit hook, see harness/props/c17.py.
-/
import Dippy.Model.PyCli
import Dippy.Lemmas.PyWalk
import Dippy.Lemmas.PyFile
import Dippy.Generated.PyAst
import Dippy.Lemmas.StrTable

namespace Dippy.C17

open Dippy.PyCli Generated.PyCli

/-- a help or version flag among them -/
def safeIn (opts : List String) : Bool := opts.any (fun o => safeFlags.contains o)

/-- what the handler's scans say (`o` = option words, `m` = the `-m` module, `fs` = the script word found), for each
    thing `r` CPython may do -/
def SpecOf (o : List String) (m : Option String) (fs : Option String) : Runs → Prop
  | .infoOnly => True
  | .stdin => safeIn o = false ∧ "-c" ∉ o ∧ "-m" ∉ o ∧ "-" ∈ o
  | .code _ => safeIn o = false ∧ "-c" ∈ o
  | .module m' => safeIn o = false ∧ "-c" ∉ o ∧ "-m" ∈ o ∧ m = m'
  | .script s _ => safeIn o = false ∧ "-c" ∉ o ∧ "-m" ∉ o ∧ "-" ∉ o ∧ fs = some s
  | .interactive => safeIn o = false ∧ "-c" ∉ o ∧ "-m" ∉ o ∧ "-" ∉ o ∧ fs = none

/-- the invariant of the walk (`b`: the next word is an option's value): the scans of `l` meet `SpecOf` -/
def Spec (b : Bool) (l : List String) : Prop :=
  SpecOf (splitOpts b l).1 (splitOpts b l).2.1 (findScript b l) (pythonRuns b l)

/-! ### one word in option position

`splitOpts`, `findScript` and `pythonRuns` walk the words with the same case distinction; `readWord` names it. -/

/-- how the handler reads a word where an interpreter option may stand -/
inductive OptWord where
  | stdin | code | module (att : String)
  | arg  -- an option whose value is the next word
  | flag | script

/-- a word that is none of the tabled ones is read by its cluster of short options -/
def clusterWord (t : String) : OptWord :=
  match scanCluster t with
  | .code => .code
  | .module att => .module att
  | .takesNext => .arg
  | .plain => if Py.startsWith t "-" then .flag else .script

/-- a tabled word as the table says, any other by its cluster -/
def readWord (t : String) : OptWord :=
  if t == "-" then .stdin
  else if t == "-c" then .code
  else if t == "-m" then .module ""
  else if flagsWithArg.contains t then .arg
  else clusterWord t

theorem splitOpts_cons (t : String) (rest : List String) :
    splitOpts false (t :: rest) =
      match readWord t with
      | .stdin => (["-"], none, rest)
      | .code => (["-c"], none, rest.drop 1)
      | .module att => if att.isEmpty then (["-m"], rest.head?, rest.drop 1) else (["-m"], some att, rest)
      | .arg => (t :: (splitOpts true rest).1, (splitOpts true rest).2.1, (splitOpts true rest).2.2)
      | .flag => (t :: (splitOpts false rest).1, (splitOpts false rest).2.1, (splitOpts false rest).2.2)
      | .script => ([], none, t :: rest) := by
  rw [splitOpts]
  fun_cases readWord t with
  | case3 => simp only [*, ↓reduceIte, Bool.false_eq_true]; rfl  -- the lone `-m`: `"".isEmpty`
  | case5 =>  -- none of the tabled words
    simp only [*, ↓reduceIte, Bool.false_eq_true]
    fun_cases clusterWord t <;> simp only [*, ↓reduceIte, Bool.false_eq_true]
  | _ => simp only [*, ↓reduceIte, Bool.false_eq_true]

theorem findScript_cons (t : String) (rest : List String) :
    findScript false (t :: rest) =
      if safeFlags.contains t then none
      else match readWord t with
        | .stdin | .flag => findScript false rest
        | .code | .module _ => none
        | .arg => findScript true rest
        | .script => some t := by
  rw [findScript]
  fun_cases readWord t with
  | case1 h =>  -- the lone dash
    -- `_find_script_path` does not test for it; the cluster scan says plain
    cases beq_iff_eq.mp h
    simp [show scanCluster "-" = .plain ∧ "-" ∉ flagsWithArg ∧ Py.startsWith "-" "-" = true by decide +kernel]
  | case5 =>  -- none of the tabled words
    fun_cases clusterWord t <;> simp only [*, ↓reduceIte, Bool.false_eq_true, Bool.or_self]
  | _ => simp only [*, ↓reduceIte, Bool.false_eq_true, Bool.or_true, Bool.true_or, Bool.or_self, ite_self]

theorem scanCluster_eq (t : String) :
    scanCluster t =
      if Py.startsWith t "-" && !Py.startsWith t "--" && decide (t.length ≥ 2) then scanChars (t.toList.drop 1)
      else .plain := by
  unfold scanCluster
  have : decide (t.length ≥ 2) = !decide (t.length < 2) := by simp [← Nat.not_lt]
  rw [this]
  cases Py.startsWith t "-" <;> cases Py.startsWith t "--" <;> cases decide (t.length < 2) <;> rfl

/-- when no help/version letter precedes the deciding character, the handler's reading of a cluster is CPython's -/
theorem cluster_agrees (cs : List Char) (info : Bool) (h : (clusterSpecChars cs info).info = false) :
    scanChars cs = (clusterSpecChars cs info).kind := by
  revert h
  -- the two scans test the same letters in another order; the letters are distinct
  fun_induction clusterSpecChars cs info with
  | case1 => exact fun _ => rfl  -- end of the cluster
  | case2 => exact fun _ => by simp [scanChars]  -- `c`
  | case3 => exact fun _ => by simp [scanChars]  -- `m`
  | case4 =>  -- `W`, `X`
    rename_i hw
    exact fun _ => by simp [scanChars, hw]
  | case5 =>  -- any other letter
    rename_i hc hm hw ih
    exact fun h => by simpa [scanChars, hc, hm, hw] using ih h

theorem pythonRuns_cons (t : String) (rest : List String) :
    pythonRuns false (t :: rest) = .infoOnly ∨
      (safeFlags.contains t = false ∧
        pythonRuns false (t :: rest) =
          match readWord t with
          | .stdin => .stdin
          | .code => .code (rest.headD "")
          | .module att => if att.isEmpty then .module rest.head? else .module (some att)
          | .arg => pythonRuns true rest
          | .flag => pythonRuns false rest
          | .script => .script t rest) := by
  rw [pythonRuns]
  by_cases hs : safeFlags.contains t = true
  · rw [if_pos hs]; exact .inl rfl
  rw [if_neg hs]
  have hs' : safeFlags.contains t = false := by simpa using hs
  have he : "".isEmpty = true := rfl  -- for the lone `-m` (`*` below)
  fun_cases readWord t with
  | case5 =>  -- none of the tabled words: a cluster
    rename_i h1 h2 h3 h4
    simp only [h1, h2, h3, h4, Bool.false_eq_true, if_false]
    unfold clusterWord
    rw [scanCluster_eq]
    by_cases hshort : (Py.startsWith t "-" && !Py.startsWith t "--" && decide (t.length ≥ 2)) = true
    · rw [if_pos hshort, if_pos hshort]
      by_cases hi : (clusterSpecChars (t.toList.drop 1) false).info = true
      · rw [if_pos hi]; exact .inl rfl
      rw [if_neg hi, cluster_agrees _ false (by simpa using hi)]
      have hd : Py.startsWith t "-" = true := by
        simp only [Bool.and_eq_true] at hshort; exact hshort.1.1
      refine .inr ⟨hs', ?_⟩
      cases (clusterSpecChars (t.toList.drop 1) false).kind with
      | plain => simp only [hd, if_true]
      | _ => rfl
    · rw [if_neg hshort, if_neg hshort]
      refine .inr ⟨hs', ?_⟩
      cases Py.startsWith t "-" <;> rfl
  | _ => exact .inr ⟨hs', by simp only [*, ↓reduceIte, Bool.false_eq_true]⟩  -- a tabled word

theorem safeIn_cons (t : String) (o : List String) : safeIn (t :: o) = (safeFlags.contains t || safeIn o) := by
  simp [safeIn]

theorem readWord_goes_on (t : String) (h : readWord t = .arg ∨ readWord t = .flag) : t ≠ "-" ∧ t ≠ "-c" ∧ t ≠ "-m" := by
  refine ⟨?_, ?_, ?_⟩ <;> (rintro rfl; simp [readWord] at h)

theorem spec_cons (t : String) (o : List String) (m : Option String) (r : Runs) (fs : Option String)
    (hs : safeFlags.contains t = false) (hw : readWord t = .arg ∨ readWord t = .flag)
    (h : SpecOf o m fs r) : SpecOf (t :: o) m fs r := by
  obtain ⟨hd, hc, hm⟩ := readWord_goes_on t hw
  have e1 : ∀ x : String, x ≠ t → (x ∈ t :: o ↔ x ∈ o) := by
    intro x hx; simp [hx]
  have c1 := e1 "-c" (fun h => hc h.symm)
  have c2 := e1 "-m" (fun h => hm h.symm)
  have c3 := e1 "-" (fun h => hd h.symm)
  cases r <;> simp only [SpecOf, safeIn_cons, hs, Bool.false_or, c1, c2, c3] at h ⊢ <;> exact h

theorem spec_holds (b : Bool) (l : List String) : Spec b l := by
  induction l generalizing b with
  | nil => cases b <;> simp [Spec, SpecOf, pythonRuns, splitOpts, findScript, safeIn]
  | cons t rest ih =>
    cases b with
    | true => simpa [Spec, pythonRuns, splitOpts, findScript] using ih false
    | false =>
      unfold Spec
      rcases pythonRuns_cons t rest with h | ⟨hs, h⟩
      · rw [h]; trivial
      rw [h, splitOpts_cons, findScript_cons, hs]
      have hno : safeIn [] = false ∧ "-" ∉ safeFlags ∧ "-c" ∉ safeFlags ∧ "-m" ∉ safeFlags := by decide +kernel
      cases hw : readWord t with
      | stdin => simp [SpecOf, safeIn, hno]
      | code => simp [SpecOf, safeIn, hno]
      | module att => by_cases he : att.isEmpty = true <;> simp only [he] <;> simp [SpecOf, safeIn, hno]
      | arg => exact spec_cons t _ _ _ _ hs (.inl hw) (ih true)
      | flag => exact spec_cons t _ _ _ _ hs (.inr hw) (ih false)
      | script => simp [SpecOf, safeIn]

/-- what an approved command may do: print help/version, run the calendar module, or run a script whose
    file – resolved against the command's cwd – passed the analysis -/
def Acceptable (env : Env) (cwd : String) : Runs → Prop
  | .infoOnly => True
  | .module m' => m' = some "calendar"
  | .script s _ => scriptRefused s = false ∧ env.fileSafe (env.resolve cwd s) = true
  | _ => False

section decision
variable (env : Env)

theorem allowed_why (cwd : String) (o : List String) (m fs : Option String)
    (h : (decideV env cwd o m fs).allowed = true) :
    (safeIn o = true ∧ decideV env cwd o m fs = .safeFlag)
      ∨ (safeIn o = false ∧ "-c" ∉ o ∧ "-m" ∈ o ∧ m = some "calendar" ∧ decideV env cwd o m fs = .moduleCalendar)
      ∨ (safeIn o = false ∧ "-c" ∉ o ∧ "-m" ∉ o ∧ "-" ∉ o ∧ ∃ s, fs = some s ∧ scriptRefused s = false
          ∧ env.fileSafe (env.resolve cwd s) = true ∧ decideV env cwd o m fs = .analysed (env.resolve cwd s) true) := by
  revert h
  fun_cases decideV env cwd o m fs with
  | case1 =>  -- `.safeFlag`
    rename_i h1
    exact fun _ => .inl ⟨h1, rfl⟩
  | case3 =>  -- `.moduleCalendar`
    rename_i h1 h2 h3 h4
    exact fun _ =>
      .inr (.inl ⟨by simpa [safeIn] using h1, by simpa using h2, by simpa using h3, by simpa using h4, rfl⟩)
  | case9 =>  -- `.analysed`
    rename_i h1 h2 h3 h4 _ s h6
    intro h
    have h7 : env.fileSafe (env.resolve cwd s) = true := h
    exact .inr (.inr ⟨by simpa [safeIn] using h1, by simpa using h2, by simpa using h3, fun hd => h4 (by simp [hd]),
      s, rfl, by simpa using h6, h7, by rw [h7]⟩)
  | _ => exact fun h => nomatch h

/-- the only ways to an approval -/
theorem approval_needs (cwd : String) (o : List String) (m fs : Option String) (h : (decideV env cwd o m fs).allowed = true) :
    decideV env cwd o m fs = .safeFlag ∨ decideV env cwd o m fs = .moduleCalendar
      ∨ ∃ s, fs = some s ∧ decideV env cwd o m fs = .analysed (env.resolve cwd s) true ∧ env.fileSafe (env.resolve cwd s) = true := by
  rcases allowed_why env cwd o m fs h with ⟨_, hv⟩ | ⟨_, _, _, _, hv⟩ | ⟨_, _, _, _, s, hs, _, hf, hv⟩
  · exact .inl hv
  · exact .inr (.inl hv)
  · exact .inr (.inr ⟨s, hs, hv, hf⟩)

theorem decideV_allowed (cwd : String) (o : List String) (m fs : Option String) (r : Runs) (hs : SpecOf o m fs r)
    (h : (decideV env cwd o m fs).allowed = true) : Acceptable env cwd r := by
  rcases allowed_why env cwd o m fs h with
    ⟨hsafe, _⟩ | ⟨_, hnc, hm, hcal, _⟩ | ⟨_, hnc, hnm, hnd, s, hfs, href, hfile, _⟩
  · -- a help or version flag: `SpecOf` has none but for `infoOnly`
    cases r with
    | infoOnly => trivial
    | _ => exact Bool.noConfusion (hsafe.symm.trans hs.1)
  · -- `-m calendar`
    cases r with
    | infoOnly => trivial
    | module m' => obtain ⟨_, _, _, hmm'⟩ := hs; exact hmm' ▸ hcal
    | code _ => exact absurd hs.2 hnc
    | stdin => obtain ⟨_, _, hnm, _⟩ := hs; exact absurd hm hnm
    | script _ _ => obtain ⟨_, _, hnm, _⟩ := hs; exact absurd hm hnm
    | interactive => obtain ⟨_, _, hnm, _⟩ := hs; exact absurd hm hnm
  · -- the analysed script
    cases r with
    | infoOnly => trivial
    | script s' _ => obtain ⟨_, _, _, _, hfs'⟩ := hs; cases hfs.symm.trans hfs'; exact ⟨href, hfile⟩
    | code _ => exact absurd hs.2 hnc
    | module _ => obtain ⟨_, _, hm, _⟩ := hs; exact absurd hm hnm
    | stdin => obtain ⟨_, _, _, hd⟩ := hs; exact absurd hd hnd
    | interactive => obtain ⟨_, _, _, _, hfs'⟩ := hs; cases hfs.symm.trans hfs'

/-- an approved python command: by CPython's own argv grammar it prints help/version, runs the calendar
    module, or runs a script whose file – resolved against the command's cwd – passed the analysis -/
theorem runs_analysed_file (cwd py : String) (l : List String) (h : (classify env cwd (py :: l)).allowed = true) :
    Acceptable env cwd (pythonRuns false l) := by
  cases l with
  | nil => simp [classify, Verdict.allowed] at h
  | cons t rest =>
    have hlen : ¬ ((py :: t :: rest).length < 2) := by simp
    unfold classify at h
    rw [if_neg hlen] at h
    exact decideV_allowed env cwd _ _ _ _ (spec_holds false (t :: rest)) h

/-- T0 fact: `~` is among the refused prefixes – a script word the shell would tilde-expand is never resolved
    (against the cwd it would name `<cwd>/~/…`, not the file that runs) -/
theorem tilde_refused (s : String) (h : scriptRefused s = false) : Py.startsWith s "~" = false := by
  have hm : "~" ∈ scriptRefusedPrefixes := by decide +kernel
  refine Bool.eq_false_iff.mpr fun hs => ?_
  rw [scriptRefused, List.any_eq_false] at h
  exact h "~" hm hs

theorem unacceptable_asks (cwd py : String) (l : List String) (h : ¬ Acceptable env cwd (pythonRuns false l)) :
    (classify env cwd (py :: l)).allowed = false :=
  Bool.eq_false_iff.mpr fun ha => h (runs_analysed_file env cwd py l ha)

/-- `python3 ~/tool.py` is never approved, whatever lies at `<cwd>/~/tool.py` -/
theorem tilde_script_asks (cwd py : String) (l : List String) (s : String) (args : List String)
    (hr : pythonRuns false l = .script s args) (ht : Py.startsWith s "~" = true) :
    (classify env cwd (py :: l)).allowed = false := by
  apply unacceptable_asks
  rw [hr]
  intro hacc
  rw [tilde_refused s hacc.1] at ht; cases ht

/-- a prefix of interpreter options in front of the script word -/
inductive OptPrefix : Bool → List String → Prop where
  | nil : OptPrefix false []
  | value (t : String) (rest : List String) : OptPrefix false rest → OptPrefix true (t :: rest)
  | withArg (t : String) (rest : List String) : t ≠ "-" → t ≠ "-c" → t ≠ "-m" → t ∈ flagsWithArg →
      OptPrefix true rest → OptPrefix false (t :: rest)
  | clusterArg (t : String) (rest : List String) : t ≠ "-" → t ≠ "-c" → t ≠ "-m" → t ∉ flagsWithArg → t ∉ safeFlags →
      scanCluster t = .takesNext → OptPrefix true rest → OptPrefix false (t :: rest)
  | flag (t : String) (rest : List String) : t ≠ "-" → t ≠ "-c" → t ≠ "-m" → t ∉ flagsWithArg →
      scanCluster t = .plain → Py.startsWith t "-" = true → OptPrefix false rest → OptPrefix false (t :: rest)

/-- a word that does not begin with a dash is none of the words the scans know by name -/
theorem readWord_script (s : String) (hs : Py.startsWith s "-" = false) :
    readWord s = .script ∧ s ∉ safeFlags := by
  have hall : (["-", "-c", "-m"] ++ safeFlags ++ flagsWithArg).all (fun t => Py.startsWith t "-") = true := by
    decide +kernel
  have hne : ∀ w ∈ ["-", "-c", "-m"] ++ safeFlags ++ flagsWithArg, s ≠ w := fun w hw h => by
    rw [h, List.all_eq_true.mp hall w hw] at hs; cases hs
  have h1 : s ∉ safeFlags := fun h => hne s (by simp [h]) rfl
  have h2 : s ∉ flagsWithArg := fun h => hne s (by simp [h]) rfl
  exact ⟨by simp [readWord, clusterWord, scanCluster, hs, h2, hne "-" (by simp), hne "-c" (by simp),
    hne "-m" (by simp)], h1⟩

theorem split_prefix (b : Bool) (pre : List String) (s : String) (args : List String) (hp : OptPrefix b pre)
    (hs : Py.startsWith s "-" = false) :
    splitOpts b (pre ++ s :: args) = ((splitOpts b pre).1, none, s :: args)
      ∧ findScript b (pre ++ s :: args) = if safeIn (splitOpts b pre).1 then none else some s := by
  induction hp with
  | nil =>
    obtain ⟨hw, hsf⟩ := readWord_script s hs
    simp [splitOpts_cons, findScript_cons, hw, hsf, splitOpts, safeIn]
  | value t rest _ ih => exact ih
  | withArg t rest h1 h2 h3 h4 _ ih =>
    have hw : readWord t = .arg := by simp [readWord, h1, h2, h3, h4]
    have hsf : safeFlags.contains t = false := by
      have : flagsWithArg.all (fun t => !safeFlags.contains t) = true := by decide +kernel
      simpa using List.all_eq_true.mp this t h4
    simp only [List.cons_append, splitOpts_cons, findScript_cons, hw, hsf, safeIn_cons, ih.1, ih.2]
    simp
  | clusterArg t rest h1 h2 h3 h4 h5 hk _ ih =>
    have hw : readWord t = .arg := by simp [readWord, clusterWord, h1, h2, h3, h4, hk]
    have hsf : safeFlags.contains t = false := by simpa using h5
    simp only [List.cons_append, splitOpts_cons, findScript_cons, hw, hsf, safeIn_cons, ih.1, ih.2]
    simp
  | flag t rest h1 h2 h3 h4 hk h5 _ ih =>
    have hw : readWord t = .flag := by simp [readWord, clusterWord, h1, h2, h3, h4, hk, h5]
    simp only [List.cons_append, splitOpts_cons, findScript_cons, hw, safeIn_cons, ih.1, ih.2]
    cases safeFlags.contains t <;> simp

/-- whatever follows the script word belongs to the script: it cannot change the verdict -/
theorem program_args_inert (cwd py : String) (pre : List String) (s : String) (args args' : List String)
    (hp : OptPrefix false pre) (hs : Py.startsWith s "-" = false) :
    classify env cwd (py :: (pre ++ s :: args)) = classify env cwd (py :: (pre ++ s :: args')) := by
  have hl : ∀ a : List String, ¬ ((py :: (pre ++ s :: a)).length < 2) := by
    intro a; simp; omega
  simp only [classify, hl, ↓reduceIte, List.drop_succ_cons, List.drop_zero, split_prefix false pre s _ hp hs]

/-- a program read from stdin, inline code: never approved, whatever file names follow -/
theorem stdin_program_asks (cwd py : String) (l : List String) (h : pythonRuns false l = .stdin) :
    (classify env cwd (py :: l)).allowed = false :=
  unacceptable_asks env cwd py l (by rw [h]; exact id)

theorem inline_code_asks (cwd py : String) (l : List String) (c : String) (h : pythonRuns false l = .code c) :
    (classify env cwd (py :: l)).allowed = false :=
  unacceptable_asks env cwd py l (by rw [h]; exact id)

end decision

/-! ### T0 facts -/

theorem file_gates : scriptSuffixes = [".py", ".pyw"] ∧ sizeLimit = 100000 := ⟨rfl, rfl⟩

theorem module_tables_disjoint : safeModules.all (fun m => !dangerousModules.contains m) = true :=
  disjoint_of_keys _ _ (by decide +kernel)

/-! ### examples -/

example : pythonRuns false ["bad.py", "--version"] = .script "bad.py" ["--version"] := by decide +kernel
example : pythonRuns false ["-W", "-h", "bad.py"] = .script "bad.py" [] := by decide +kernel
example : pythonRuns false ["-", "safe.py"] = .stdin := by decide +kernel
example : (splitOpts false ["-B", "-m", "calendar", "-h"]) = (["-B", "-m"], some "calendar", ["-h"]) := by
  decide +kernel

/-! ### the checker reaches every node

`PyAst.visit` is `SafetyAnalyzer.visit` (tied by T1 on generated scripts, the repository's own sources
and the standard library as a corpus); `PyAst.Desc` is "is a node of the tree", written without
reference to the visitor. -/

section checker
open Dippy.PyAst

/-- the tables of python.py, as T0 reads them from the source on every run -/
def srcTables : Tables :=
  { safeModules := Generated.PyAst.safeModules, dangerousModules := Generated.PyAst.dangerousModules,
    dangerousBuiltins := Generated.PyAst.dangerousBuiltins, dangerousAttrs := Generated.PyAst.dangerousAttrs,
    reflectionAttrs := Generated.PyAst.reflectionAttrs, moduleAliasAttrs := Generated.PyAst.moduleAliasAttrs }

/-- `analyze_python_source(source)` returns no violation (`allow_print=True`, as the handler calls it) -/
def Approved (t : PNode) : Prop := visit srcTables true t = []

instance (t : PNode) : Decidable (Approved t) := inferInstanceAs (Decidable (visit srcTables true t = []))

/-- no hidden node: in an approved tree the class-specific check of every node, at any depth, is empty -/
theorem approved_covers (t n : PNode) (h : Approved t) (hd : Desc t n) : localViolations srcTables true n = [] :=
  visit_covers srcTables true t n h hd

/-- … and every reported violation is some node's own (the walk invents nothing) -/
theorem reports_are_local (t : PNode) (v : Violation) (hv : v ∈ visit srcTables true t) :
    ∃ n, Desc t n ∧ v ∈ localViolations srcTables true n :=
  visit_only_local srcTables true t v hv

section tables
variable (T : Tables)

/-- a module name passes: not dangerous (itself or its root package) and safe-listed (itself or its root) -/
def ModuleOk (m : String) : Prop :=
  T.dangerousModules.contains m = false ∧ T.dangerousModules.contains (rootOf m) = false
    ∧ (T.safeModules.contains m = true ∨ T.safeModules.contains (rootOf m) = true)

theorem ite_cons_eq_nil {α : Type} (c : Bool) (a : α) (l r : List α) :
    (if c then a :: l else r) = [] ↔ c = false ∧ r = [] := by
  cases c <;> simp

theorem moduleOk_iff (line : Nat) (m : String) : moduleViolation T line m = [] ↔ ModuleOk T m := by
  simp only [moduleViolation, ModuleOk, ite_cons_eq_nil, Bool.or_eq_false_iff, Bool.and_eq_false_iff,
    Bool.not_eq_false', and_true, and_assoc]

section byclass
-- the node's own check is empty: each lemma reads one class off it
variable {ap : Bool} {n : PNode} (h : localViolations T ap n = [])
include h

theorem import_local (hk : n.kind = "Import") :
    ∀ a ∈ n.listField "names", ∀ m, a.strField "name" = some m → ModuleOk T m := by
  unfold localViolations at h
  simp only [hk] at h
  intro a ha m hm
  have := List.flatMap_eq_nil_iff.mp h a ha
  exact (moduleOk_iff T n.line m).mp (by simpa [hm] using this)

theorem importFrom_local (hk : n.kind = "ImportFrom") :
    ∃ m, n.strField "module" = some m ∧ ModuleOk T m
      ∧ ∀ a ∈ n.listField "names", ∀ nm, a.strField "name" = some nm → fromNameViolation T n.line nm = [] := by
  unfold localViolations at h
  simp only [hk] at h
  cases hm : n.strField "module" with
  | none => simp [hm] at h
  | some m =>
    simp only [hm] at h
    cases hv : moduleViolation T n.line m with
    | cons v vs => simp [hv] at h
    | nil =>
      simp only [hv] at h
      refine ⟨m, rfl, (moduleOk_iff T n.line m).mp hv, ?_⟩
      intro a ha nm hnm
      have := List.flatMap_eq_nil_iff.mp h a ha
      simpa [hnm] using this

theorem name_local (hk : n.kind = "Name") (name : String) (hn : n.strField "id" = some name) :
    name ≠ "__builtins__" ∧ name ≠ "__loader__" ∧ name ≠ "__spec__"
      ∧ (n.isLoad = true → builtinRefused T ap name = false) := by
  unfold localViolations at h
  simp only [hk, hn, ite_cons_eq_nil, Bool.or_eq_false_iff, Bool.and_eq_false_iff, beq_eq_false_iff_ne, and_true,
    and_assoc] at h
  obtain ⟨h1, h2, h3, h4⟩ := h
  exact ⟨h1, h2, h3, fun hl => h4.resolve_left (by simp [hl])⟩

theorem attribute_local (hk : n.kind = "Attribute") (attr : String) (hn : n.strField "attr" = some attr) :
    T.reflectionAttrs.contains attr = false ∧ T.dangerousModules.contains (lstripUnderscore attr) = false
      ∧ T.moduleAliasAttrs.contains attr = false ∧ (n.isLoad = true → T.dangerousAttrs.contains attr = false) := by
  unfold localViolations at h
  simp only [hk, hn, ite_cons_eq_nil, Bool.or_eq_false_iff, Bool.and_eq_false_iff, and_true, and_assoc] at h
  obtain ⟨h1, h2, h3, h4⟩ := h
  exact ⟨h1, h2, h3, fun hl => h4.resolve_left (by simp [hl])⟩

theorem async_local : n.kind ≠ "AsyncFunctionDef" ∧ n.kind ≠ "Await" := by
  constructor <;> intro hk <;> (unfold localViolations at h; simp [hk] at h)

end byclass

end tables

/-- what approval of a script guarantees, syntactically and at any nesting depth -/
theorem approved_imports (t n : PNode) (h : Approved t) (hd : Desc t n) (hk : n.kind = "Import") :
    ∀ a ∈ n.listField "names", ∀ m, a.strField "name" = some m → ModuleOk srcTables m :=
  import_local srcTables (approved_covers t n h hd) hk

theorem approved_from_imports (t n : PNode) (h : Approved t) (hd : Desc t n) (hk : n.kind = "ImportFrom") :
    ∃ m, n.strField "module" = some m ∧ ModuleOk srcTables m
      ∧ ∀ a ∈ n.listField "names", ∀ nm, a.strField "name" = some nm → fromNameViolation srcTables n.line nm = [] :=
  importFrom_local srcTables (approved_covers t n h hd) hk

theorem approved_names (t n : PNode) (h : Approved t) (hd : Desc t n) (hk : n.kind = "Name") (name : String)
    (hn : n.strField "id" = some name) (hl : n.isLoad = true) : builtinRefused srcTables true name = false :=
  (name_local srcTables (approved_covers t n h hd) hk name hn).2.2.2 hl

theorem approved_attributes (t n : PNode) (h : Approved t) (hd : Desc t n) (hk : n.kind = "Attribute") (attr : String)
    (hn : n.strField "attr" = some attr) :
    srcTables.reflectionAttrs.contains attr = false ∧ srcTables.dangerousModules.contains (lstripUnderscore attr) = false
      ∧ srcTables.moduleAliasAttrs.contains attr = false ∧ (n.isLoad = true → srcTables.dangerousAttrs.contains attr = false) :=
  attribute_local srcTables (approved_covers t n h hd) hk attr hn

theorem approved_no_async (t n : PNode) (h : Approved t) (hd : Desc t n) : n.kind ≠ "AsyncFunctionDef" ∧ n.kind ≠ "Await" :=
  async_local srcTables (approved_covers t n h hd)

/-- concretely (T0 tables of this tree): no node of an approved script reads the name `eval`, `exec`, `open`,
    `compile`, `__import__`, `getattr` … -/
theorem refused_builtins :
    ["eval", "exec", "open", "compile", "__import__", "getattr", "setattr", "globals", "input", "breakpoint"].all
      (fun b => builtinRefused srcTables true b) = true := by decide +kernel

theorem dangerous_modules_listed :
    ["os", "sys", "subprocess", "socket", "shutil", "ctypes", "importlib", "pathlib", "io", "pickle"].all
      (fun m => srcTables.dangerousModules.contains m) = true := by decide +kernel

/-- T0: the visitor has exactly the `visit_` methods the model has cases for; every one ends in
    `self.generic_visit(node)` except `visit_Global`, only `visit_ImportFrom` returns early; the class
    overrides neither `visit` nor `generic_visit` and derives from `ast.NodeVisitor` alone; the driver
    parses, visits the module and returns the violations -/
theorem visitor_shape :
    Generated.PyAst.visitorMethods =
      [("AsyncFunctionDef", true, false), ("Attribute", true, false), ("Await", true, false), ("Call", true, false),
       ("FunctionDef", true, false), ("Global", false, false), ("Import", true, false), ("ImportFrom", true, true),
       ("Name", true, false), ("Starred", true, false), ("Try", true, false), ("With", true, false)]
      ∧ Generated.PyAst.visitorOther = []
      ∧ Generated.PyAst.driverCalls = ["SafetyAnalyzer", "Violation", "analyzer.visit", "ast.parse", "str"] :=
  ⟨rfl, rfl, rfl⟩

/-- the model's `descends` is that shape: a class whose method does not end in `generic_visit`, or returns
    early, is exactly one the model treats specially -/
theorem descends_matches_shape :
    Generated.PyAst.visitorMethods.all (fun m =>
      m.2.1 == descends (.mk m.1 0 [("module", .str "m")])
        && m.2.2 == (descends (.mk m.1 0 [("module", .none)]) != descends (.mk m.1 0 [("module", .str "m")]))) = true := by
  decide +kernel

/-- non-vacuity: `import json; print(json.dumps(1))` is approved … -/
example :
    Approved (.mk "Module" 0 [("body", .list [
      .node (.mk "Import" 1 [("names", .list [.node (.mk "alias" 1 [("name", .str "json"), ("asname", .none)])])]),
      .node (.mk "Expr" 2 [("value", .node (.mk "Call" 2 [
        ("func", .node (.mk "Name" 2 [("id", .str "print"), ("ctx", .node (.mk "Load" 0 []))])),
        ("args", .list [.node (.mk "Call" 2 [
          ("func", .node (.mk "Attribute" 2 [("value", .node (.mk "Name" 2 [("id", .str "json"), ("ctx", .node (.mk "Load" 0 []))])),
                                              ("attr", .str "dumps"), ("ctx", .node (.mk "Load" 0 []))])),
          ("args", .list [.node (.mk "Constant" 2 [("value", .other)])]), ("keywords", .list [])])]),
        ("keywords", .list [])]))])])]) := by
  decide +kernel

/-- … and a reference to `eval` buried in a lambda inside a list inside a default argument is not -/
example :
    ¬ Approved (.mk "Module" 0 [("body", .list [
      .node (.mk "FunctionDef" 1 [("name", .str "f"), ("args", .node (.mk "arguments" 0 [("defaults", .list [
        .node (.mk "List" 1 [("elts", .list [.node (.mk "Lambda" 1 [("body",
          .node (.mk "Name" 1 [("id", .str "eval"), ("ctx", .node (.mk "Load" 0 []))]))])])])])])),
        ("body", .list [.node (.mk "Pass" 2 [])])])])]) := by
  decide +kernel

/-! ### from the command line to the nodes of the script

`PyFile.analyzeFile` is `analyze_python_file` over what the file system, the decoder and `ast.parse` answered for
a path (`FileFacts`, recorded by T1 from the real run).  With the handler's `fileSafe` oracle instantiated by it,
an approved `python …` command that runs a script runs a file whose *every* node passed its check. -/

open Dippy.PyFile in
/-- the handler's environment, with the file analysis spelled out -/
def fileEnv (resolve : String → String → String) (facts : String → FileFacts) : Env :=
  { resolve := resolve
    fileSafe := fun p => (analyzeFile srcTables scriptSuffixes sizeLimit cookieNameChar (facts p)).isSafe }

open Dippy.PyFile in
/-- **C17, syntactic half, end to end**: if `python ARGS` is auto-approved and CPython's argv grammar says it runs the
    script word `s`, then `s` does not begin with `~` and the file it resolves to (in the command's cwd) has a
    `.py`/`.pyw` suffix, is within the size limit, parses, has no import shadowed by a sibling – and in its tree no
    node at any depth fails its check: no import outside the safe list, no reference to a refused builtin, no
    reflection attribute, no dangerous method reference, no async construct. -/
theorem approved_command_runs_checked_script (resolve : String → String → String) (facts : String → FileFacts)
    (cwd py : String) (l : List String) (s : String) (args : List String)
    (h : (classify (fileEnv resolve facts) cwd (py :: l)).allowed = true)
    (hr : pythonRuns false l = .script s args) :
    ∃ tree, (facts (resolve cwd s)).tree = some tree ∧ Approved tree
      ∧ (∀ n, Desc tree n → localViolations srcTables true n = [])
      ∧ (∀ r ∈ importRoots tree, (facts (resolve cwd s)).shadowed r = false)
      ∧ scriptSuffixes.contains (facts (resolve cwd s)).suffix = true
      ∧ (∃ sz, (facts (resolve cwd s)).size = some sz ∧ sz ≤ sizeLimit)
      ∧ Py.startsWith s "~" = false := by
  have hrun := runs_analysed_file (fileEnv resolve facts) cwd py l h
  rw [hr] at hrun
  obtain ⟨_, _, hsuf, hsz, src, tree, _, _, htree, hvis, hsh⟩ := safe_means _ _ _ _ _ (PyFile.Verdict.eq_safe hrun.2)
  exact ⟨tree, htree, hvis, fun n hd => approved_covers tree n hvis hd, hsh, hsuf, hsz, tilde_refused s hrun.1⟩

/-- non-vacuity of the file model: a small safe script next to nothing … -/
example :
    PyFile.analyzeFile srcTables scriptSuffixes sizeLimit PyFile.cookieNameChar
      { pathExists := true, isFile := true, suffix := ".py", size := some 12, source := some "import json\n",
        tree := some (.mk "Module" 0 [("body", .list [.node (.mk "Import" 1 [("names", .list [.node (.mk "alias" 1 [("name", .str "json")])])])])]),
        shadowed := fun _ => false } = .safe := by decide +kernel

/-- … the same script next to a `json.py` -/
example :
    PyFile.analyzeFile srcTables scriptSuffixes sizeLimit PyFile.cookieNameChar
      { pathExists := true, isFile := true, suffix := ".py", size := some 12, source := some "import json\n",
        tree := some (.mk "Module" 0 [("body", .list [.node (.mk "Import" 1 [("names", .list [.node (.mk "alias" 1 [("name", .str "json")])])])])]),
        shadowed := fun r => r == "json" } = .refused "local module shadows import: json" := by decide +kernel

/-- … and with a coding cookie that makes the interpreter read other text than the analysed one -/
example :
    PyFile.foreignCookie PyFile.cookieNameChar "#!/usr/bin/python\n# -*- coding: latin-1 -*-\nimport json\n" = some "latin-1"
      ∧ PyFile.foreignCookie PyFile.cookieNameChar "# vim: set fileencoding=UTF_8 :\nx = 1\n" = none
      ∧ PyFile.foreignCookie PyFile.cookieNameChar "x = 1\n\n# coding: latin-1\n" = none := by
  rw [PyFile.foreignCookie_ofList, PyFile.foreignCookie_ofList, PyFile.foreignCookie_ofList]
  decide +kernel

end checker

end Dippy.C17
