/-
C03 — Verdicts compose exactly as most-restrictive-wins (deny > ask > allow).

`w : World` is arbitrary (any rule set, any handler answers, any parser answers), `rec` is the string
re-analysis (any), so every statement holds for every configuration, cwd and fuel.
-/
import Dippy.Lemmas.Walk

namespace Dippy.C03

variable (w : World) (rec : Rec) (h : HelpTables)

abbrev verdict (n : Node) (cwd : String) (r : Bool) : Action := (aNode w rec h n cwd r).action

local notation "V" => verdict w rec h

/-! ### `_combine` is the join -/

theorem combine_is_join (ds : List Decision) : (combine ds).action = supList (acts ds) :=
  combine_action ds

/-- no spurious prompt: the result is never above every part -/
theorem combine_le (ds : List Decision) (c : Action) (hc : ∀ d ∈ ds, d.action ≤ c) :
    (combine ds).action ≤ c := by
  rw [combine_is_join]; apply supList_le; intro a ha
  simp only [acts, List.mem_map] at ha
  obtain ⟨d, hd, rfl⟩ := ha; exact hc d hd

/-- hides nothing: every part's verdict is below the result -/
theorem combine_ge (ds : List Decision) (d : Decision) (hd : d ∈ ds) :
    d.action ≤ (combine ds).action := by
  rw [combine_is_join]; exact le_supList (List.mem_map_of_mem hd)

/-- the result is the verdict of one of the parts (or allow when there is none) -/
theorem combine_attained (ds : List Decision) :
    (combine ds).action = .allow ∨ ∃ d ∈ ds, (combine ds).action = d.action := by
  rw [combine_is_join]
  rcases supList_mem (acts ds) with h | h
  · left; exact h
  · right; simp only [acts, List.mem_map] at h; obtain ⟨d, hd, he⟩ := h; exact ⟨d, hd, he.symm⟩

theorem combine_perm {xs ys : List Decision} (hp : xs.Perm ys) :
    (combine xs).action = (combine ys).action := by
  rw [combine_is_join, combine_is_join]; exact supList_perm (hp.map _)

theorem combine_dup (xs : List Decision) : (combine (xs ++ xs)).action = (combine xs).action := by
  rw [combine_is_join, combine_is_join, acts_append, supList_dup]

/-! ### the composition operators -/

-- `for ((;;))`, `[[ ]]` and `(( ))` have no equation here: `node_flat` covers them

/-- `a | b | c` -/
theorem pipeline_eq (cmds : List Node) (cwd : String) (r : Bool) :
    V (.pipeline cmds) cwd r = supList (cmds.map fun c => V c cwd r) := by
  simp only [verdict, aNode]
  rw [rejoin_action, S, aNodes_eq_map]
  simp [acts, List.map_map, Function.comp_def]

/-- the verdicts of the parts of a list, operators skipped: the first part in the cwd the list is entered in (a leading
    `cd` still runs there), the later ones in the effective cwd (where a leading literal `cd` leads) -/
def listPartVerdicts (parts : List Node) (cwd : String) (r : Bool) : List Action :=
  match parts.filter (fun n => !isOperator n) with
  | [] => []
  | p :: ps => V p cwd r :: ps.map (fun q => V q (effectiveCwd w parts cwd r) r)

/-- `a ; b && c || d & e ⏎ f` -/
theorem list_eq (parts : List Node) (cwd : String) (r : Bool) :
    V (.list parts) cwd r = supList (listPartVerdicts w rec h parts cwd r) := by
  simp only [verdict, aNode, listPartVerdicts]
  rw [rejoin_action, S, aListPartsCd_eq]
  cases parts.filter (fun n => !isOperator n) with
  | nil => simp [acts]
  | cons p ps => simp [acts, List.map_map, Function.comp_def]

/-- under a fixed cwd (the list does not start with a literal `cd`) -/
theorem list_eq_fixed_cwd {parts : List Node} {cwd : String} {r : Bool}
    (hcd : effectiveCwd w parts cwd r = cwd) :
    V (.list parts) cwd r = supList ((parts.filter fun n => !isOperator n).map fun p => V p cwd r) := by
  rw [list_eq]
  simp only [listPartVerdicts, hcd]
  cases parts.filter (fun n => !isOperator n) <;> rfl

theorem if_eq (c t : Node) (e : Option Node) (rs : List Redir) (cwd : String) (r : Bool) :
    V (.ifN c t e rs) cwd r
      = supList ([V c cwd r, V t cwd r] ++ (e.map fun n => V n cwd r).toList
          ++ acts (aRedirects w rec h rs cwd r)) := by
  simp only [verdict, aNode, combine_action, S, acts_append, aOptNode_acts]
  simp

theorem while_eq (u : Bool) (c b : Node) (rs : List Redir) (cwd : String) (r : Bool) :
    V (.whileN u c b rs) cwd r
      = supList ([V c cwd r, V b cwd r] ++ acts (aRedirects w rec h rs cwd r)) := by
  simp only [verdict, aNode, combine_action, S, acts_append]
  simp

theorem for_eq (v : String) (ws : List Word) (b : Node) (rs : List Redir) (cwd : String) (r : Bool) :
    V (.forN v ws b rs) cwd r
      = supList ([V b cwd r] ++ acts (aWords w rec h ws cwd r) ++ acts (aRedirects w rec h rs cwd r)) := by
  simp only [verdict, aNode, combine_action, S, acts_append]
  simp

theorem select_eq (v : String) (ws : List Word) (b : Node) (rs : List Redir) (cwd : String) (r : Bool) :
    V (.selectN v ws b rs) cwd r
      = supList ([V b cwd r] ++ acts (aWords w rec h ws cwd r) ++ acts (aRedirects w rec h rs cwd r)) := by
  simp only [verdict, aNode, combine_action, S, acts_append]
  simp

theorem casePats_acts (pats : List CasePat) (cwd : String) (r : Bool) :
    acts (aCasePats w rec h pats cwd r)
      = pats.flatMap fun p => match p with
          | .mk pat body => acts (scanArg rec true (some pat) cwd r) ++ (body.map fun n => V n cwd r).toList := by
  induction pats with
  | nil => simp [aCasePats]
  | cons p ps ih =>
    cases p with
    | mk pat body => simp [aCasePats, ih, aOptNode_acts]

/-- a `case` is the join of its word's substitutions, its patterns' substitutions, its arms' bodies
    and its redirects -/
theorem case_eq (wd : Option Word) (pats : List CasePat) (rs : List Redir) (cwd : String) (r : Bool) :
    V (.caseN wd pats rs) cwd r
      = supList (acts (aOptWord w rec h wd cwd r)
          ++ (pats.flatMap fun p => match p with
                | .mk pat body => acts (scanArg rec true (some pat) cwd r) ++ (body.map fun n => V n cwd r).toList)
          ++ acts (aRedirects w rec h rs cwd r)) := by
  simp only [verdict, aNode]
  rw [combine_or_allow, S, acts_append, acts_append, casePats_acts]

theorem subshell_eq (b : Node) (rs : List Redir) (cwd : String) (r : Bool) :
    V (.subshell b rs) cwd r = Action.sup (V b cwd r) (supList (acts (aRedirects w rec h rs cwd r))) := by
  simp only [verdict, aNode, combine_action, S, acts_append]
  simp

theorem brace_eq (b : Node) (rs : List Redir) (cwd : String) (r : Bool) :
    V (.braceGroup b rs) cwd r = Action.sup (V b cwd r) (supList (acts (aRedirects w rec h rs cwd r))) := by
  simp only [verdict, aNode, combine_action, S, acts_append]
  simp

theorem function_eq (name : String) (b : Node) (cwd : String) (r : Bool) :
    V (.function name b) cwd r = V b cwd r := by
  rw [verdict, aNode_function]

theorem time_eq (p : Node) (cwd : String) (r : Bool) : V (.time p) cwd r = V p cwd r := by
  rw [verdict, aNode_time]

theorem negation_eq (p : Node) (cwd : String) (r : Bool) : V (.negation p) cwd r = V p cwd r := by
  rw [verdict, aNode_negation]

theorem coproc_eq (p : Node) (cwd : String) (r : Bool) : V (.coproc p) cwd r = V p cwd r := by
  rw [verdict, aNode_coproc]

/-! ### inside one simple command -/

/-- the verdict of the command proper (step 3 of `_analyze_command`): the words after the
    assignment prefix, judged as a simple command – as spelled and as bash reads them after quote removal,
    the stricter of the two -/
def proper (ws : List Word) (cwd : String) (r : Bool) : Action :=
  let ctx := mkCmdCtx w ws
  if ctx.words.isEmpty then .allow
  else if ctx.base == "[" || ctx.base == "test" then .allow
  else if ctx.baseIdx ≥ ctx.words.length then .allow
  else Action.sup (simpleCmd w rec h (ctx.words.length + 1) (ctx.words.drop ctx.baseIdx) cwd r).action
    (simpleCmd w rec h (ctx.unquoted.length + 1) (ctx.unquoted.drop ctx.baseIdx) cwd r).action

/-- a simple command's verdict is the join of its substitutions (with the injection-risk
    prompt that belongs to a pure `$(…)` argument), its redirections and the command proper -/
theorem command_eq (ws : List Word) (rs : List Redir) (cwd : String) (r : Bool) :
    V (.command ws rs) cwd r
      = Action.sup (supList (acts (aCmdWords w rec h (mkCmdCtx w ws) ws 0 cwd r)))
          (Action.sup (supList (acts (aRedirects w rec h rs cwd r))) (proper w rec h ws cwd r)) := by
  -- the statement's `supList (acts ·)` is `S`
  show _ = Action.sup (S _) (Action.sup (S _) _)
  simp only [verdict, aNode, proper]
  generalize mkCmdCtx w ws = ctx
  -- `by_cases`, not `split`: on a goal of this size each `split` costs more than all the rest
  by_cases hw : ctx.words.isEmpty = true  -- no words at all
  · rw [if_pos hw, combine_or_allow]; simp [hw]
  by_cases ht : (ctx.base == "[" || ctx.base == "test") = true
  · simp [hw, ht, combine_action]
  by_cases ha : ctx.baseIdx ≥ ctx.words.length  -- assignments only
  · simp [hw, ht, ha, combine_action]
  · simp [hw, ht, ha, combine_action, S_cmdDecisions]

/-! ### order, repetition, nesting depth -/

theorem pipeline_perm {xs ys : List Node} (hp : xs.Perm ys) (cwd : String) (r : Bool) :
    V (.pipeline xs) cwd r = V (.pipeline ys) cwd r := by
  rw [pipeline_eq, pipeline_eq]; exact supList_perm (hp.map _)

theorem pipeline_dup (xs : List Node) (cwd : String) (r : Bool) :
    V (.pipeline (xs ++ xs)) cwd r = V (.pipeline xs) cwd r := by
  rw [pipeline_eq, pipeline_eq]; simp

theorem list_perm {xs ys : List Node} (hp : xs.Perm ys) (cwd : String) (r : Bool)
    (hx : effectiveCwd w xs cwd r = cwd) (hy : effectiveCwd w ys cwd r = cwd) :
    V (.list xs) cwd r = V (.list ys) cwd r := by
  rw [list_eq_fixed_cwd w rec h hx, list_eq_fixed_cwd w rec h hy]
  exact supList_perm ((hp.filter _).map _)

/-- transparent wrappers, applied to any depth -/
inductive Wrap where
  | subshell | brace | time | negation | function (name : String) | coproc

def Wrap.apply : Wrap → Node → Node
  | .subshell, n => .subshell n []
  | .brace, n => .braceGroup n []
  | .time, n => .time n
  | .negation, n => .negation n
  | .function name, n => .function name n
  | .coproc, n => .coproc n

theorem wrap_eq (k : Wrap) (n : Node) (cwd : String) (r : Bool) : V (k.apply n) cwd r = V n cwd r := by
  cases k <;> simp [verdict, Wrap.apply, aNode, aRedirects, combine_action]

/-- nesting depth is irrelevant -/
theorem depth_free (ks : List Wrap) (n : Node) (cwd : String) (r : Bool) :
    V (ks.foldr Wrap.apply n) cwd r = V n cwd r := by
  induction ks with
  | nil => rfl
  | cons k ks ih => simp only [List.foldr_cons]; rw [wrap_eq]; exact ih

/-! ### "submitted alone" -/

/-- analysing a text whose parse is the single node `n` gives `n`'s verdict -/
theorem alone (fuel : Nat) (s : String) (n : Node) (cwd : String) (r : Bool)
    (hs : (stripCmd s).isEmpty = false) (hp : w.parse (stripCmd s) = .ok [n]) :
    (analyzeStr w h (fuel + 1) s cwd r).action = (aNode w (analyzeStr w h fuel) h n cwd r).action := by
  simp [analyzeStr, hs, hp, aNodes, combine_action]

/-- and a text with several top-level nodes is the join of them -/
theorem toplevel (fuel : Nat) (s : String) (ns : List Node) (cwd : String) (r : Bool)
    (hs : (stripCmd s).isEmpty = false) (hne : ns.isEmpty = false) (hp : w.parse (stripCmd s) = .ok ns) :
    (analyzeStr w h (fuel + 1) s cwd r).action
      = supList (ns.map fun n => (aNode w (analyzeStr w h fuel) h n cwd r).action) := by
  simp [analyzeStr, hs, hp, hne, combine_action, S, aNodes_eq_map, acts, List.map_map, Function.comp_def]

end Dippy.C03
