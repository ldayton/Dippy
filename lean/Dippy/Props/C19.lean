/-
C19 — Post-execution feedback rules are advisory only.
-/
import Dippy.Lemmas.Hook
import Dippy.Lemmas.LastMatch
import Dippy.Lemmas.Parse

namespace Dippy.C19

/-- on a PostToolUse event the hook prints nothing, one duck-prefixed message, or `{}` (a tool that
    is neither shell nor MCP) – for every stdin and every environment -/
theorem post_output (env : HookEnv) (stdin : Stdin) (hp : isPostEvent stdin = true) :
    hook env stdin = [] ∨ (∃ msg, hook env stdin = [.text (duck msg)]) ∨ hook env stdin = [.json (.obj [])] := by
  rcases hook_inv env stdin with h | ⟨j, m, r, cwd, -, -, -, hs, h⟩
  · exact .inr (.inr h)
  · rw [h]; rw [hp] at hs
    cases hs with
    | defer => exact .inr (.inr rfl)
    | silent => exact .inl rfl
    | feedback msg =>
      simp only [render]
      cases Py.truthy msg with
      | none => exact .inl rfl
      | some t => exact .inr (.inl ⟨t, rfl⟩)

/-- … and never a permission decision -/
theorem post_no_decision (env : HookEnv) (stdin : Stdin) (hp : isPostEvent stdin = true) :
    decisionOfOut (hook env stdin) = none := by
  rcases post_output env stdin hp with h | ⟨msg, h⟩ | h <;> rw [h] <;> rfl

/-- `match_after` returns the message of the last matching `after` rule, `""` when it has none -/
theorem after_last (env : PathEnv) (cfg : Config) (words : List String) (cwd : String) :
    matchAfter env cfg words cwd
      = ((cfg.afterRules.filter fun r =>
            patternMatches env r.pattern false (normalizedCmd env cfg words cwd false) cwd false).getLast?).map
          fun r => r.message.getD "" := by
  simp only [matchAfter, lastMatch_eq]

theorem after_mcp_last (cfg : Config) (tool : String) :
    matchAfterMcp cfg tool
      = ((cfg.afterMcpRules.filter fun r => Glob.fnmatch tool r.pattern).getLast?).map fun r => r.message.getD "" := by
  unfold matchAfterMcp
  rw [lastMatch_eq]

theorem silent_when_no_rule (m : Mode) : render m (.feedback none) = [] ∧ render m (.feedback (some "")) = [] := by
  constructor <;> rfl

/-! ### after rules never alter a pre-execution verdict -/

/-- the rule lookups of the analysis and the MCP lookup do not read the after rules -/
theorem after_rules_invisible (env : PathEnv) (c₁ c₂ : Config)
    (hr : c₁.rules = c₂.rules) (hd : c₁.redirectRules = c₂.redirectRules) (ha : c₁.aliases = c₂.aliases)
    (hm : c₁.mcpRules = c₂.mcpRules) :
    (∀ ws cwd rem, matchCommand env c₁ ws cwd rem = matchCommand env c₂ ws cwd rem)
    ∧ (∀ t cwd, matchRedirect env c₁ t cwd = matchRedirect env c₂ t cwd)
    ∧ (∀ tool, matchMcp c₁ tool = matchMcp c₂ tool) :=
  ⟨fun ws cwd rem => matchCommand_congr env hr ha ws cwd rem, fun t cwd => matchRedirect_congr env hd t cwd,
    matchMcp_congr hm⟩

/-- a line that yields an after / after-mcp rule -/
def isAfterLine (e : ParseEnv) (l : String) : Bool :=
  match parseLine e l with
  | .after _ => true
  | .afterMcp _ => true
  | _ => false

theorem isAfterLine_true {e : ParseEnv} {l : String} (h : isAfterLine e l = true) :
    (parseLine e l).ruleOf = none ∧ (parseLine e l).redirectOf = none ∧ (parseLine e l).aliasOf = none
      ∧ (parseLine e l).mcpOf = none := by
  unfold isAfterLine at h
  generalize parseLine e l = r at h
  cases r <;> first | exact ⟨rfl, rfl, rfl, rfl⟩ | cases h

/-- at the level of config text: deleting (or adding) after / after-mcp lines anywhere leaves every
    part of the configuration a pre-execution verdict can depend on unchanged -/
theorem after_lines_invisible (e : ParseEnv) (lines : List String) :
    let full := parseLines e lines
    let without := parseLines e (lines.filter fun l => !isAfterLine e l)
    full.rules = without.rules ∧ full.redirectRules = without.redirectRules
      ∧ full.aliases = without.aliases ∧ full.mcpRules = without.mcpRules := by
  have hk : ∀ l, (!isAfterLine e l) = false → isAfterLine e l = true := fun l h => by simpa using h
  simp only [parseLines_eq, applyAll_rules, applyAll_redirectRules, applyAll_aliases, applyAll_mcpRules]
  refine ⟨?_, ?_, ?_, ?_⟩
  · rw [filterMap_parse_filter e _ _ (fun l h => (isAfterLine_true (hk l h)).1)]
  · rw [filterMap_parse_filter e _ _ (fun l h => (isAfterLine_true (hk l h)).2.1)]
  · rw [filterMap_parse_filter e _ _ (fun l h => (isAfterLine_true (hk l h)).2.2.1)]
  · rw [filterMap_parse_filter e _ _ (fun l h => (isAfterLine_true (hk l h)).2.2.2)]

/-- any `hook_event_name` other than the string `PostToolUse` (including non-strings) is handled as
    a pre-execution event -/
example : isPostEvent (.value (.obj [("hook_event_name", .str "PostToolUse")])) = true
    ∧ isPostEvent (.value (.obj [("hook_event_name", .str "Other")])) = false
    ∧ isPostEvent (.value (.obj [("hook_event_name", .num false "5")])) = false
    ∧ isPostEvent (.value (.obj [])) = false := by decide +kernel

end Dippy.C19
