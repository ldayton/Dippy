/-
C16 — SQL classified read-only: the classifier (`is_readonly_sql`) and the sqlite3 handler, for every input text.
That a single SELECT/EXPLAIN statement leaves an SQLite database unchanged is engine semantics, exercised by T2
against the real engine, not proved.
-/
import Dippy.Model.Sql
import Dippy.Lemmas.Strip

namespace Dippy.C16

open Dippy.Sql

/-! ### several statements -/

theorem multi_never_ro (s : List Char) (xr xw : List String) (h : hasMultiple s = true) : isReadonly s xr xw = none := by
  simp [isReadonly, h]

/-- text with a `$name(…)` / `:name(…)` / `@name(…)` / `#name(…)` token is never classified: SQLite reads such a token
    as one variable, quote characters and all, so the quote scanner cannot be trusted on it -/
theorem variable_suffix_not_ro (s : List Char) (xr xw : List String) (h : hasVarSuffix s = true) : isReadonly s xr xw = none := by
  simp [isReadonly, h]

/-- T0: the guard is the first test of `is_readonly_sql` and its pattern is the one `hasVarSuffix` transcribes -/
theorem variable_suffix_pattern :
    Generated.Sql.variableWithSuffixPattern = "(?<![:\\w])[$@:#][\\w$][^\\s()'\\\"`;,]*\\(" := rfl

example : hasVarSuffix "SELECT $a(') ; DELETE FROM t --'".toList = true ∧ hasVarSuffix "SELECT :a(x)".toList = true
    ∧ hasVarSuffix "SELECT x::numeric(10,2) FROM t".toList = false ∧ hasVarSuffix "SELECT count(*), :id, $1 FROM t".toList = false := by
  -- the kernel evaluates `toList` of a literal by UTF-8 encoding and decoding; as `String.ofList` it need not
  rw [String.toList_ofList, String.toList_ofList, String.toList_ofList, String.toList_ofList]
  decide +kernel

theorem ro_single (s : List Char) (xr xw : List String) (h : isReadonly s xr xw = some true) : hasMultiple s = false := by
  cases hm : hasMultiple s with
  | false => rfl
  | true => rw [multi_never_ro s xr xw hm] at h; cases h

/-- a separator outside quotes/comments followed by anything that is not blank or another separator:
    several statements, whatever the text -/
theorem second_statement_detected (s a b : List Char) (c : Char)
    (hs : stripQuoted s = a ++ ';' :: b) (ha : ';' ∉ a) (hc : c ∈ b) (hsp : Py.isSpace c = false) (hsemi : c ≠ ';') :
    hasMultiple s = true := by
  have hdrop : (a ++ ';' :: b).dropWhile (· != ';') = ';' :: b := by
    rw [List.dropWhile_append_of_pos (fun x hx => by simpa using fun (h : x = ';') => ha (h ▸ hx))]; simp
  -- `c` survives the stripping of blanks
  obtain ⟨pre, suf, hb, hpre, hsuf⟩ := Py.stripL_split Py.isSpace b
  have hmem : c ∈ Py.stripL Py.isSpace b := by
    rw [hb] at hc
    simp only [List.mem_append] at hc
    rcases hc with (h | h) | h
    · rw [hpre c h] at hsp; cases hsp
    · exact h
    · rw [hsuf c h] at hsp; cases hsp
  have hne : Py.stripL Py.isSpace b ≠ [] := List.ne_nil_of_mem hmem
  have hall : ¬ (Py.stripL Py.isSpace b).all (· == ';') = true := fun hx =>
    hsemi (by simpa using List.all_eq_true.mp hx c hmem)
  simp [hasMultiple, hs, hdrop, hne, hall]

/-! ### the main statement -/

/-- `w rest` is the keyword the classification is made on: the first keyword, or – after `WITH` – the
    one `_skip_cte` stops at -/
inductive Main : List Char → List Char → List Char → Prop where
  | first {s c t w rest} : skipWs s = c :: t → matchKw (c :: t) = some (w, rest) → kwIs w "WITH" = false → Main s w rest
  | cte {s c t w0 rest0 w rest} : skipWs s = c :: t → matchKw (c :: t) = some (w0, rest0) → kwIs w0 "WITH" = true →
      Main (skipCte (rest0.length + 1) rest0 true) w rest → Main s w rest

/-- read-only ⇒ the main statement is a SELECT without INTO before FROM, or starts with a read-only keyword -/
theorem ro_shape (ro wr : List String) (n : Nat) (s : List Char) (h : classifyLoop ro wr n s = some true) :
    ∃ w rest, Main s w rest ∧
      ((kwIs w "SELECT" = true ∧ selectInto (rest.length + 1) rest = false) ∨ (kwIs w "SELECT" = false ∧ kwIn w ro = true)) := by
  revert h
  fun_induction classifyLoop ro wr n s with
  | case4 =>  -- `WITH`: hop behind the CTEs
    rename_i hws _ _ hkw hwith ih
    intro h
    obtain ⟨w', rest', hm, hsh⟩ := ih h
    exact ⟨w', rest', .cte hws hkw hwith hm, hsh⟩
  | case6 =>  -- `SELECT` without `INTO`
    rename_i hws w rest hkw hwith hsel hinto
    exact fun _ => ⟨w, rest, .first hws hkw (Bool.eq_false_iff.mpr hwith), .inl ⟨hsel, Bool.eq_false_iff.mpr hinto⟩⟩
  | case7 =>  -- a read-only keyword
    rename_i hws w rest hkw hwith hsel hro
    exact fun _ => ⟨w, rest, .first hws hkw (Bool.eq_false_iff.mpr hwith), .inr ⟨Bool.eq_false_iff.mpr hsel, hro⟩⟩
  | _ => exact fun h => nomatch h

/-- a text whose first keyword is a write keyword (and not also a read-only one) is classified a write -/
theorem write_first_not_ro (ro wr : List String) (n : Nat) (s : List Char) (c : Char) (t w rest : List Char)
    (hws : skipWs s = c :: t) (hkw : matchKw (c :: t) = some (w, rest))
    (hwith : kwIs w "WITH" = false) (hsel : kwIs w "SELECT" = false) (hro : kwIn w ro = false) (hwr : kwIn w wr = true) :
    classifyLoop ro wr (n + 1) s = some false := by
  unfold classifyLoop
  simp [hws, hkw, hwith, hsel, hro, hwr]

/-- anything that does not begin with a known keyword (a dot-command, a number, an unknown word) is unknown -/
theorem unknown_first_not_ro (ro wr : List String) (n : Nat) (s : List Char) (c : Char) (t : List Char)
    (hws : skipWs s = c :: t)
    (h : matchKw (c :: t) = none ∨ ∃ w rest, matchKw (c :: t) = some (w, rest) ∧ kwIs w "WITH" = false ∧ kwIs w "SELECT" = false
          ∧ kwIn w ro = false ∧ kwIn w wr = false) :
    classifyLoop ro wr (n + 1) s = none := by
  unfold classifyLoop
  rcases h with h | ⟨w, rest, hk, h1, h2, h3, h4⟩
  · simp [hws, h]
  · simp [hws, hk, h1, h2, h3, h4]

theorem select_into_not_ro (ro wr : List String) (n : Nat) (s : List Char) (c : Char) (t w rest : List Char)
    (hws : skipWs s = c :: t) (hkw : matchKw (c :: t) = some (w, rest))
    (hwith : kwIs w "WITH" = false) (hsel : kwIs w "SELECT" = true) (hinto : selectInto (rest.length + 1) rest = true) :
    classifyLoop ro wr (n + 1) s = some false := by
  unfold classifyLoop
  simp [hws, hkw, hwith, hsel, hinto]

/-! ### sqlite3 command lines -/

/-- what a verdict of the sqlite3 handler says about the command line -/
def Because (tokens : List String) : SqliteVerdict → Prop
  | .helpVersion => tokens.any (fun t => Generated.Sql.sqliteHelp.contains t) = true
  | .initScript => "-init" ∈ optionWords 0 (tokens.drop 1)
  | .readonlyMode => "-readonly" ∈ optionWords 0 (tokens.drop 1) ∨ "-safe" ∈ optionWords 0 (tokens.drop 1)
  | .readOnlyQuery =>
    ∀ p ∈ sqlArgs false 0 (tokens.drop 1), isReadonly p.toList [] Generated.Sql.sqliteWrite = some true
  | _ => True

theorem classify_because (tokens : List String) : Because tokens (sqliteClassify tokens) := by
  fun_cases sqliteClassify tokens with
  | case1 h => exact h  -- a help or version option
  | case2 _ h => exact List.contains_iff_mem.mp h  -- `-init`
  | case3 _ _ h => simpa [Because] using h  -- `-readonly` / `-safe`
  | case5 =>  -- every SQL text is read-only
    rename_i h
    intro p hp
    simpa using List.all_eq_true.mp h _ (List.mem_map.mpr ⟨p, hp, rfl⟩)
  | _ => trivial

/-- a read-only verdict needs every SQL text the shell would run – each argument after the file name and
    each `-cmd` argument – to be read-only on its own -/
theorem args_separate (tokens : List String) (h : sqliteClassify tokens = .readOnlyQuery) :
    ∀ p ∈ sqlArgs false 0 (tokens.drop 1), isReadonly p.toList [] Generated.Sql.sqliteWrite = some true := by
  have := classify_because tokens
  rwa [h] at this

/-- the only ways to an auto-approval -/
theorem allowed_cases (tokens : List String) (h : (sqliteClassify tokens).allowed = true) :
    sqliteClassify tokens = .helpVersion ∨ sqliteClassify tokens = .readonlyMode ∨ sqliteClassify tokens = .readOnlyQuery := by
  cases hc : sqliteClassify tokens <;> simp [hc, SqliteVerdict.allowed] at h ⊢

/-- a dot-command or a write among the arguments is not approved, unless help or read-only mode decides first -/
theorem write_arg_asks (tokens : List String) (p : String)
    (hh : tokens.any (fun t => Generated.Sql.sqliteHelp.contains t) = false)
    (hr : ((optionWords 0 (tokens.drop 1)).contains "-readonly" || (optionWords 0 (tokens.drop 1)).contains "-safe") = false)
    (hp : p ∈ sqlArgs false 0 (tokens.drop 1)) (hw : isReadonly p.toList [] Generated.Sql.sqliteWrite ≠ some true) :
    (sqliteClassify tokens).allowed = false := by
  apply Bool.eq_false_iff.mpr
  intro ha
  have hb := classify_because tokens
  rcases allowed_cases tokens ha with h | h | h <;> rw [h] at hb
  · exact absurd (hh ▸ hb : false = true) (by simp)
  · have : ¬ ("-readonly" ∈ optionWords 0 (tokens.drop 1) ∨ "-safe" ∈ optionWords 0 (tokens.drop 1)) := by
      simpa using hr
    exact this hb
  · exact hw (hb p hp)

/-- the value of a one-argument option is not an option word: `-separator -readonly` does not open the database
    read-only -/
theorem option_value_skipped (o v : String) (rest : List String) (ho : o ∈ Generated.Sql.sqliteOneArg) :
    optionWords 0 (o :: v :: rest) = o :: optionWords 0 rest := by
  have hall : Generated.Sql.sqliteOneArg.all (fun t => Py.startsWith t "-") = true := by decide +kernel
  have hs := List.all_eq_true.mp hall o ho
  simp [optionWords, hs, ho]

/-- option words are words of the command line -/
theorem optionWords_sub (k : Nat) (l : List String) : ∀ x ∈ optionWords k l, x ∈ l := by
  fun_induction optionWords k l with
  | case1 => exact fun _ h => h  -- no words left
  | case2 =>  -- an option's value
    rename_i ih
    exact fun x hx => List.mem_cons_of_mem _ (ih x hx)
  | case3 t rest ih =>  -- option position
    intro x hx
    rcases List.mem_append.mp hx with hx | hx
    · split at hx
      · exact List.mem_singleton.mp hx ▸ List.mem_cons_self
      · cases hx
    · exact List.mem_cons_of_mem _ (ih x hx)

/-- the read-only-mode shortcut needs `-readonly` or `-safe` in option position -/
theorem readonly_mode_option (tokens : List String) (h : sqliteClassify tokens = .readonlyMode) :
    "-readonly" ∈ optionWords 0 (tokens.drop 1) ∨ "-safe" ∈ optionWords 0 (tokens.drop 1) := by
  have := classify_because tokens
  rwa [h] at this

/-- an `-init` script is never approved, whatever else is on the line (`-readonly` does not hold its dot-commands
    back) -/
theorem init_script_asks (tokens : List String)
    (hh : tokens.any (fun t => Generated.Sql.sqliteHelp.contains t) = false)
    (hi : "-init" ∈ optionWords 0 (tokens.drop 1)) :
    (sqliteClassify tokens).allowed = false := by
  have hc : (optionWords 0 (tokens.drop 1)).contains "-init" = true := by simpa using hi
  unfold sqliteClassify
  simp only [hh, hc, Bool.false_eq_true, ↓reduceIte]
  rfl

example : sqliteClassify ["sqlite3", "-readonly", "-init", "x.sql", "db"] = .initScript := by decide +kernel

example : sqliteClassify ["sqlite3", "-separator", "-readonly", "db", "DELETE FROM t"] = .writeQuery := by
  decide +kernel
example : sqliteClassify ["sqlite3", "-readonly", "db", "DELETE FROM t"] = .readonlyMode := by decide +kernel
example : sqliteClassify ["sqlite3", "-lookaside", "1", "-safe", "db", "DELETE FROM t"] = .writeQuery := by
  decide +kernel

/-! ### T0 obligations -/

theorem keyword_sets_disjoint :
    Generated.Sql.readonlyKeywords.all (fun k => !(Generated.Sql.writeKeywords ++ Generated.Sql.sqliteWrite).contains k) = true
      ∧ !(Generated.Sql.readonlyKeywords ++ Generated.Sql.writeKeywords ++ Generated.Sql.sqliteWrite).contains "WITH" = true := by decide +kernel

/-- the quoting pattern has exactly the six alternatives the model implements, in this order -/
theorem quoted_pattern_modelled :
    Generated.Sql.quotedAlternatives =
      ["'(?:[^']*'')*[^']*'", "\"(?:[^\"]*\"\")*[^\"]*\"", "`[^`]*`", "\\[[^\\]]*\\]", "--[^\\n]*", "/\\*.*?\\*/"] :=
  rfl

/-! ### examples (tests, not theorems about all inputs) -/

example : isReadonly "SELECT 1; DROP TABLE t".toList [] [] = none := by rw [String.toList_ofList]; decide +kernel
example : isReadonly "SELECT ';' ; -- x".toList [] [] = some true := by rw [String.toList_ofList]; decide +kernel
example : isReadonly "WITH a AS (SELECT 1) DELETE FROM t".toList [] [] = some false := by
  rw [String.toList_ofList]; decide +kernel
example : isReadonly "select 'a''; drop table t; --'".toList [] [] = some true := by
  rw [String.toList_ofList]; decide +kernel
example : isReadonly ".shell id".toList [] [] = none := by rw [String.toList_ofList]; decide +kernel
example : sqliteClassify ["sqlite3", "db", "SELECT 1", "DROP TABLE t"] = .writeQuery := by decide +kernel
example : sqliteClassify ["sqlite3", "db", "select 1", ".shell id"] = .unknownQuery := by decide +kernel

end Dippy.C16
