/-
C14 — MCP rules and shell rules never influence each other.

Rule-engine and parser level; the hook-level routing of MCP tools is `mcpPath` / `route` of Model/Hook
(`Sourced.mcp` in Lemmas/Hook).
-/
import Dippy.Lemmas.LastMatch
import Dippy.Lemmas.Parse

namespace Dippy.C14

/-- MCP tools: the last matching `*-mcp` glob wins -/
theorem mcp_last (cfg : Config) (tool : String) :
    matchMcp cfg tool
      = ((cfg.mcpRules.filter fun r => Glob.fnmatch tool r.pattern).getLast?).map Rule.toMatch := by
  unfold matchMcp; rw [lastMatch_eq]

theorem mcp_none_iff (cfg : Config) (tool : String) :
    matchMcp cfg tool = none ↔ ∀ r ∈ cfg.mcpRules, Glob.fnmatch tool r.pattern = false := by
  unfold matchMcp
  simp only [Option.map_eq_none_iff]
  exact lastMatch_none

/-- the MCP verdict depends on the `*-mcp` rules only -/
theorem mcp_depends_only_on_mcp_rules (c₁ c₂ : Config) (tool : String) (h : c₁.mcpRules = c₂.mcpRules) :
    matchMcp c₁ tool = matchMcp c₂ tool := matchMcp_congr h tool

theorem after_mcp_depends_only_on_after_mcp_rules (c₁ c₂ : Config) (tool : String)
    (h : c₁.afterMcpRules = c₂.afterMcpRules) : matchAfterMcp c₁ tool = matchAfterMcp c₂ tool := by
  unfold matchAfterMcp; rw [h]

/-- shell commands: the rule lookups depend on command rules, redirect rules and aliases only -/
theorem shell_ignores_mcp (env : PathEnv) (c₁ c₂ : Config)
    (hr : c₁.rules = c₂.rules) (hd : c₁.redirectRules = c₂.redirectRules) (ha : c₁.aliases = c₂.aliases) :
    (∀ ws cwd rem, matchCommand env c₁ ws cwd rem = matchCommand env c₂ ws cwd rem)
    ∧ (∀ t cwd, matchRedirect env c₁ t cwd = matchRedirect env c₂ t cwd) :=
  ⟨fun ws cwd rem => matchCommand_congr env hr ha ws cwd rem, fun t cwd => matchRedirect_congr env hd t cwd⟩

/-- hence the whole analysis of any command is the same under both configurations -/
theorem shell_verdict_ignores_mcp (w : World) (env : PathEnv) (c₁ c₂ : Config)
    (hr : c₁.rules = c₂.rules) (hd : c₁.redirectRules = c₂.redirectRules) (ha : c₁.aliases = c₂.aliases) :
    w.withConfig env c₁ = w.withConfig env c₂ := by
  unfold World.withConfig
  rw [funext fun ws => funext fun cwd => funext fun rem => matchCommand_congr env hr ha ws cwd rem,
    funext fun t => funext fun cwd => matchRedirect_congr env hd t cwd]

/-! ### at the level of config *text* -/

/-- a line that yields an MCP-family rule -/
def isMcpLine (e : ParseEnv) (l : String) : Bool :=
  match parseLine e l with
  | .mcp _ => true
  | .afterMcp _ => true
  | _ => false

/-- a line leaves the MCP lists alone or the shell-relevant lists alone -/
theorem line_family (c : Config) (lr : LineResult) :
    let c' := c.apply lr
    (c'.mcpRules = c.mcpRules ∧ c'.afterMcpRules = c.afterMcpRules)
    ∨ (c'.rules = c.rules ∧ c'.redirectRules = c.redirectRules ∧ c'.aliases = c.aliases
        ∧ c'.afterRules = c.afterRules) := by
  cases lr <;> simp [Config.apply]

theorem isMcpLine_true {e : ParseEnv} {l : String} (h : isMcpLine e l = true) :
    (parseLine e l).ruleOf = none ∧ (parseLine e l).redirectOf = none ∧ (parseLine e l).aliasOf = none
      ∧ (parseLine e l).afterOf = none := by
  unfold isMcpLine at h
  generalize parseLine e l = r at h
  cases r <;> first | exact ⟨rfl, rfl, rfl, rfl⟩ | cases h

theorem isMcpLine_false {e : ParseEnv} {l : String} (h : isMcpLine e l = false) :
    (parseLine e l).mcpOf = none ∧ (parseLine e l).afterMcpOf = none := by
  unfold isMcpLine at h
  generalize parseLine e l = r at h
  cases r <;> first | exact ⟨rfl, rfl⟩ | cases h

/-- deleting (or adding) MCP lines anywhere in a config text leaves every shell-relevant part of
    the parsed configuration unchanged -/
theorem mcp_lines_invisible_to_shell (e : ParseEnv) (lines : List String) :
    let full := parseLines e lines
    let without := parseLines e (lines.filter fun l => !isMcpLine e l)
    full.rules = without.rules ∧ full.redirectRules = without.redirectRules
      ∧ full.aliases = without.aliases ∧ full.afterRules = without.afterRules := by
  have hk : ∀ l, (!isMcpLine e l) = false → isMcpLine e l = true := fun l h => by simpa using h
  simp only [parseLines_eq, applyAll_rules, applyAll_redirectRules, applyAll_aliases, applyAll_afterRules]
  refine ⟨?_, ?_, ?_, ?_⟩
  · rw [filterMap_parse_filter e _ _ (fun l h => (isMcpLine_true (hk l h)).1)]
  · rw [filterMap_parse_filter e _ _ (fun l h => (isMcpLine_true (hk l h)).2.1)]
  · rw [filterMap_parse_filter e _ _ (fun l h => (isMcpLine_true (hk l h)).2.2.1)]
  · rw [filterMap_parse_filter e _ _ (fun l h => (isMcpLine_true (hk l h)).2.2.2)]

/-- symmetrically: deleting every non-MCP line leaves the MCP rule lists unchanged -/
theorem shell_lines_invisible_to_mcp (e : ParseEnv) (lines : List String) :
    let full := parseLines e lines
    let only := parseLines e (lines.filter fun l => isMcpLine e l)
    full.mcpRules = only.mcpRules ∧ full.afterMcpRules = only.afterMcpRules := by
  simp only [parseLines_eq, applyAll_mcpRules, applyAll_afterMcpRules]
  constructor
  · rw [filterMap_parse_filter e _ _ (fun l h => (isMcpLine_false h).1)]
  · rw [filterMap_parse_filter e _ _ (fun l h => (isMcpLine_false h).2)]

/-! ### across config layers (`_merge_configs`) -/

/-- merging layers keeps the families apart: the MCP lists of the result are built from the MCP
    lists of the layers alone -/
theorem merge_mcp_only (a a' b b' : Config)
    (ha : a.mcpRules = a'.mcpRules) (hb : b.mcpRules = b'.mcpRules)
    (ha2 : a.afterMcpRules = a'.afterMcpRules) (hb2 : b.afterMcpRules = b'.afterMcpRules) :
    (mergeConfigs a b).mcpRules = (mergeConfigs a' b').mcpRules
      ∧ (mergeConfigs a b).afterMcpRules = (mergeConfigs a' b').afterMcpRules := by
  simp [mergeConfigs, ha, hb, ha2, hb2]

/-- … and the shell-relevant parts from the shell-relevant parts of the layers alone -/
theorem merge_shell_only (a a' b b' : Config)
    (hr : a.rules = a'.rules) (hr' : b.rules = b'.rules)
    (hd : a.redirectRules = a'.redirectRules) (hd' : b.redirectRules = b'.redirectRules)
    (hal : a.aliases = a'.aliases) (hal' : b.aliases = b'.aliases) :
    (mergeConfigs a b).rules = (mergeConfigs a' b').rules
      ∧ (mergeConfigs a b).redirectRules = (mergeConfigs a' b').redirectRules
      ∧ (mergeConfigs a b).aliases = (mergeConfigs a' b').aliases := by
  simp [mergeConfigs, hr, hr', hd, hd', hal, hal']

/-- **layered non-interference, MCP side**: edit the shell lines of any layer (user, project,
    `$DIPPY_CONFIG`) in any way that keeps each layer's MCP lines – the verdict for every MCP tool
    is unchanged -/
theorem layered_mcp_ignores_shell (e : ParseEnv) (u p v u' p' v' : List String) (tool : String)
    (hu : u.filter (isMcpLine e) = u'.filter (isMcpLine e))
    (hp : p.filter (isMcpLine e) = p'.filter (isMcpLine e))
    (hv : v.filter (isMcpLine e) = v'.filter (isMcpLine e)) :
    matchMcp (mergeConfigs (mergeConfigs (parseLines e u) (parseLines e p)) (parseLines e v)) tool
      = matchMcp (mergeConfigs (mergeConfigs (parseLines e u') (parseLines e p')) (parseLines e v')) tool := by
  apply mcp_depends_only_on_mcp_rules
  have key : ∀ a a' : List String, a.filter (isMcpLine e) = a'.filter (isMcpLine e) →
      (parseLines e a).mcpRules = (parseLines e a').mcpRules := by
    intro a a' h
    rw [(shell_lines_invisible_to_mcp e a).1, (shell_lines_invisible_to_mcp e a').1, h]
  simp [mergeConfigs, key u u' hu, key p p' hp, key v v' hv]

/-- **layered non-interference, shell side**: edit the MCP lines of any layer – every shell-relevant
    part of the merged configuration, hence every shell verdict, is unchanged -/
theorem layered_shell_ignores_mcp (w : World) (env : PathEnv) (e : ParseEnv) (u p v u' p' v' : List String)
    (hu : u.filter (fun l => !isMcpLine e l) = u'.filter (fun l => !isMcpLine e l))
    (hp : p.filter (fun l => !isMcpLine e l) = p'.filter (fun l => !isMcpLine e l))
    (hv : v.filter (fun l => !isMcpLine e l) = v'.filter (fun l => !isMcpLine e l)) :
    w.withConfig env (mergeConfigs (mergeConfigs (parseLines e u) (parseLines e p)) (parseLines e v))
      = w.withConfig env (mergeConfigs (mergeConfigs (parseLines e u') (parseLines e p')) (parseLines e v')) := by
  have key : ∀ a a' : List String, a.filter (fun l => !isMcpLine e l) = a'.filter (fun l => !isMcpLine e l) →
      (parseLines e a).rules = (parseLines e a').rules
        ∧ (parseLines e a).redirectRules = (parseLines e a').redirectRules
        ∧ (parseLines e a).aliases = (parseLines e a').aliases := by
    intro a a' h
    have h1 := mcp_lines_invisible_to_shell e a
    have h2 := mcp_lines_invisible_to_shell e a'
    simp only [h] at h1
    exact ⟨h1.1.trans h2.1.symm, h1.2.1.trans h2.2.1.symm, h1.2.2.1.trans h2.2.2.1.symm⟩
  obtain ⟨u1, u2, u3⟩ := key u u' hu
  obtain ⟨p1, p2, p3⟩ := key p p' hp
  obtain ⟨v1, v2, v3⟩ := key v v' hv
  obtain ⟨m1, m2, m3⟩ := merge_shell_only _ _ _ _ u1 p1 u2 p2 u3 p3
  obtain ⟨n1, n2, n3⟩ := merge_shell_only _ _ _ _ m1 v1 m2 v2 m3 v3
  exact shell_verdict_ignores_mcp w env _ _ n1 n2 n3

/-- non-vacuity: a mixed text really has both families -/
example :
    let e : ParseEnv := ⟨"/h", fun _ => none⟩
    let c := parseLines e ["deny rm", "allow-mcp mcp__gh__*", "deny-mcp mcp__fs__*"]
    c.rules.length = 1 ∧ c.mcpRules.length = 2 := by decide +kernel

end Dippy.C14
