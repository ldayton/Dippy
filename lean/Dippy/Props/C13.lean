/-
C13 — remote delegation (docker/podman/kubectl exec) relaxes only local-path checks, and only
for the delegated inner command.

By part of the property:
  (1) the `remote` flag is constant through the walk of a tree: a local analysis (`remote =
      false`, the only way the hook calls `analyze`) judges every command, every raw text and
      every redirection of the outer command line locally – siblings, substitutions and outer
      redirections included; the flag changes only where a handler delegates (C04.delegate_verdict:
      `rec inner cwd classification.remote`);
  (2) a remote walk consults no file-redirection atom, while redirection targets and here-document bodies
      are still searched for substitutions (that the two walks differ in nothing else is not stated);
  (3) rule lookups in remote mode do not read the local file system or cwd at all, but they do
      read every rule: a matching deny/ask rule decides the inner command as it does locally;
  (4) a simple command whose rule lookups agree in both modes and whose handler reports no
      write targets gets exactly the local verdict and reason;
  (5) what is delegated: for kubectl exec exactly the words after the first `--`, for docker
      exec a suffix after the container name (W.kubectlExecInner_spec / W.dockerExecInner_suffix).
-/
import Dippy.Lemmas.Remote
import Dippy.Lemmas.Flat
import Dippy.Lemmas.Simple
import Dippy.Lemmas.Wrappers
import Dippy.Props.C07

namespace Dippy.C13

variable (w : World) (rec : Rec) (h : HelpTables)

/-! ### (1) the flag is constant through the walk -/

/-- every atom of a walk carries the walk's flag; redirection atoms exist only in local walks -/
theorem walk_flag_constant (n : Node) (cwd : String) (r : Bool) :
    ∀ a ∈ flat w.syn n cwd r, a.flagOk r = true :=
  List.all_eq_true.mp (node_flag w.syn n cwd r)

/-- a local analysis judges every command of the outer line locally … -/
theorem outer_commands_local (n : Node) (cwd : String) (words : List String) (b : Nat) (c : String) (r : Bool)
    (ha : Atom.proper words b c r ∈ flat w.syn n cwd false) : r = false := by
  simpa using walk_flag_constant w n cwd false _ ha

/-- … and every raw text (here-documents, `${…}` arguments, `$((…))`, case patterns …) -/
theorem outer_texts_local (n : Node) (cwd : String) (ps : Bool) (s : Option String) (c : String) (r : Bool)
    (ha : Atom.text ps s c r ∈ flat w.syn n cwd false) : r = false := by
  simpa using walk_flag_constant w n cwd false _ ha

/-- the verdict of a local analysis is the join of locally judged atoms (R1 + the above) -/
theorem local_verdict_local_atoms (n : Node) (cwd : String) :
    (aNode w rec h n cwd false).action = supList (((flat w.syn n cwd false).flatMap (atomDecisions w rec h)).map (·.action))
      ∧ ∀ a ∈ flat w.syn n cwd false, a.flagOk false = true :=
  ⟨verdict_eq_leaves w rec h n cwd false, walk_flag_constant w n cwd false⟩

/-! ### (2) what remote mode drops -/

/-- in a remote walk no file-redirection atom is consulted … -/
theorem remote_has_no_redirect_atoms (n : Node) (cwd : String) (op t c : String) :
    Atom.redir op t c ∉ flat w.syn n cwd true := by
  intro ha
  simpa using walk_flag_constant w n cwd true _ ha

/-- … while the redirection *targets* are still searched for substitutions, and here-document
    bodies are still scanned -/
theorem remote_redirect_still_walked (op : String) (t : Word) (rs : List Redir) (cwd : String) :
    flatRedirects w.syn (.redirect op (some t) :: rs) cwd true
      = flatWord w.syn t cwd true ++ flatRedirects w.syn rs cwd true := by
  simp [flatRedirects]

theorem remote_heredoc_still_scanned (content : String) (rs : List Redir) (cwd : String) :
    flatRedirects w.syn (.heredoc false content :: rs) cwd true
      = .text false (some content) cwd true :: flatRedirects w.syn rs cwd true := by
  simp [flatRedirects]

/-! ### (3) rules in remote mode -/

/-- rule lookups in remote mode read neither the path environment (home, symlinks) nor the cwd -/
theorem remote_rules_env_free (env env' : PathEnv) (cfg : Config) (ws : List String) (cwd cwd' : String) :
    matchCommand env cfg ws cwd true = matchCommand env' cfg ws cwd' true := by
  simp [matchCommand, matchWords, normalizedCmd, patternMatches]

/-- … and not the aliases either: the words are matched as written -/
theorem remote_rules_alias_free (env : PathEnv) (cfg : Config) (al : List (String × String)) (ws : List String) (cwd : String) :
    matchCommand env { cfg with aliases := al } ws cwd true = matchCommand env cfg ws cwd true := by
  simp [matchCommand, matchWords, normalizedCmd, patternMatches]

/-- a rule that matches the inner command decides it in remote mode exactly as rules do locally -/
theorem remote_rule_decides (n : Nat) (tokens : List String) (cwd : String) (m : Match)
    (hne : tokens.isEmpty = false)
    (hm : w.matchCommand tokens cwd true = some m) :
    (simpleCmd w rec h (n + 1) tokens cwd true).action = m.decision :=
  C07.rule_decides w rec h n tokens cwd true m hne hm

/-- a literal deny rule bites the delegated command: `deny rm` matches `rm -rf /` in remote mode -/
theorem remote_literal_deny (env : PathEnv) (cfg : Config) (r : Rule) (ws : List String) (cwd : String) (n : Nat)
    (hne : ws.isEmpty = false)
    (hlast : (lastMatch (fun r : Rule => patternMatches env r.pattern r.exact (Py.joinSpace ws) cwd true) cfg.rules) = some r)
    (hd : r.decision = .deny) :
    (simpleCmd (w.withConfig env cfg) rec h (n + 1) ws cwd true).action = .deny := by
  have hm : (w.withConfig env cfg).matchCommand ws cwd true = some r.toMatch := by
    simp [World.withConfig, matchCommand, matchWords, normalizedCmd, hlast]
  rw [C07.rule_decides (w.withConfig env cfg) rec h n ws cwd true r.toMatch hne hm]
  simpa [Rule.toMatch] using hd

/-! ### (4) otherwise exactly the local verdict -/

theorem builtin_remote_eq_local (tokens : List String) (cwd : String)
    (ht : (w.classify tokens).redirectTargets = []) :
    builtinVerdict w rec h.helpWords h.helpFlags2 h.helpFlagsLast tokens cwd true
      = builtinVerdict w rec h.helpWords h.helpFlags2 h.helpFlagsLast tokens cwd false := by
  unfold builtinVerdict
  simp [ht]

/-- a command whose rule lookups do not depend on the mode and whose handler reports no write
    targets: same verdict, same reason -/
theorem remote_eq_local_simple (n : Nat) (words : List String) (cwd : String)
    (hm : ∀ k, w.matchCommand (words.drop k) cwd true = w.matchCommand (words.drop k) cwd false)
    (ht : ∀ k, (w.classify (words.drop k)).redirectTargets = []) :
    simpleCmd w rec h n words cwd true = simpleCmd w rec h n words cwd false :=
  simpleCmd_congr w rec h w rec cwd cwd false true rfl rfl n words
    (forall_suffix_of_forall_drop hm)
    (forall_suffix_of_forall_drop fun k => builtin_remote_eq_local w rec h _ cwd (ht k))

-- the hypotheses are met by a world in which no command rule matches anything
example (w : World) (hw : ∀ ws cwd r, w.matchCommand ws cwd r = none) (ws : List String) (cwd : String) :
    ∀ k, w.matchCommand (ws.drop k) cwd true = w.matchCommand (ws.drop k) cwd false := by
  intro k; rw [hw, hw]

/-! ### (5) what is delegated -/

theorem kubectl_exec_inner (l inner : List String) (hi : W.kubectlExecInner l = some inner) :
    inner ≠ [] ∧ ∃ pre, l = pre ++ "--" :: inner ∧ "--" ∉ pre :=
  W.kubectlExecInner_spec l inner hi

theorem docker_exec_inner (l inner : List String) (hi : W.dockerExecInner false l = some inner) :
    inner ≠ [] ∧ inner <:+ l :=
  W.dockerExecInner_suffix false l inner hi

example : W.dockerExecInner false ["-it", "-e", "A=1", "web", "sh", "-c", "ls"] = some ["sh", "-c", "ls"] := by decide +kernel
example : W.dockerExecInner false ["--", "ls", "rm", "-rf", "/"] = some ["rm", "-rf", "/"] := by decide +kernel
example : W.kubectlExecInner ["-it", "pod", "-c", "main", "--", "rm", "x"] = some ["rm", "x"] := by decide +kernel

/-! ### which kubectl command lines are an exec -/

section
open W Generated.H

/-- T0 fact: `exec` has no entry in kubectl's action and subcommand tables, so `classify` reaches the exec branch -/
theorem exec_not_tabled : "exec" ∉ kubectl_SAFE_ACTIONS ∧ "exec" ∉ kubectl_SUBCOMMAND_ACTIONS := by decide +kernel

/-- the words before the first operand are flags and flag values only -/
def KubectlFlags : Bool → List String → Prop
  | _, [] => True
  | true, _ :: rest => KubectlFlags false rest
  | false, t :: rest => sw t "-" = true ∧ KubectlFlags (kubectl_FLAGS_WITH_ARG.contains t) rest

theorem kubectlOperands_spec (b : Bool) (l : List String) (t : String) (rest : List String)
    (h : kubectlOperands b l = t :: rest) :
    ∃ pre, l = pre ++ t :: rest ∧ KubectlFlags b pre ∧ sw t "-" = false ∧ (pre = [] → b = false) := by
  revert h
  fun_induction kubectlOperands b l with
  | case1 => exact nofun  -- no word left
  | case2 x l ih =>  -- the value of a flag
    exact fun h => (ih h).elim fun pre ⟨hl, hp, ht, _⟩ => ⟨x :: pre, hl ▸ rfl, hp, ht, nofun⟩
  | case3 x l hx ih =>  -- a flag
    exact fun h => (ih h).elim fun pre ⟨hl, hp, ht, _⟩ => ⟨x :: pre, hl ▸ rfl, ⟨hx, hp⟩, ht, fun _ => rfl⟩
  | case4 x l hx =>  -- the operand
    exact fun h => by cases h; exact ⟨[], rfl, trivial, by simpa using hx, fun _ => rfl⟩

/-- kubectl delegates only for the action `exec` – the first word that is neither a flag nor the value of a global
    flag – and then to exactly the words after the first `--` that follows it.  `kubectl --user get exec p -- rm x`
    (user name `get`) is an exec: `get` is stepped over as the value of `--user`. -/
theorem kubectl_delegates_exec_only (tokens inner : List String) (h : kubectlDelegates tokens = some inner) :
    ∃ pre rest, tokens.drop 1 = pre ++ "exec" :: rest ∧ KubectlFlags false pre ∧ kubectlExecInner rest = some inner := by
  revert h
  fun_cases kubectlDelegates tokens with
  | case1 action rest hop ha =>  -- the first operand is `exec`
    obtain rfl : action = "exec" := by simpa using ha
    exact fun h => (kubectlOperands_spec false _ _ _ hop).elim fun pre ⟨hl, hp, _⟩ => ⟨pre, rest, hl, hp, h⟩
  | _ => exact nofun

end

open W Generated.H in
example : kubectlDelegates ["kubectl", "--user", "get", "exec", "p", "--", "rm", "-rf", "/"] = some ["rm", "-rf", "/"] := by decide +kernel
open W Generated.H in
example : kubectlDelegates ["kubectl", "get", "exec", "p", "--", "rm"] = none := by decide +kernel
open W Generated.H in
example : "--user" ∈ kubectl_FLAGS_WITH_ARG ∧ "--kubeconfig" ∈ kubectl_FLAGS_WITH_ARG ∧ "-s" ∈ kubectl_FLAGS_WITH_ARG := by decide +kernel

end Dippy.C13
