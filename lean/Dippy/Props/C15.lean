/-
C15 — Audit logging is a pure observer, even when it fails.
-/
import Dippy.Model.LogFS
import Dippy.Model.Hook

namespace Dippy.C15

/-- every fault the code knows how to swallow -/
def benign (φ : SinkFaults) : Prop := φ.mkdir ≠ .other ∧ φ.open_ ≠ .other ∧ φ.write ≠ .other

/-- under any benign fault schedule, configuring and writing never raise -/
theorem logging_never_raises (cfg : Config) (φ : SinkFaults) (hφ : benign φ) : logOkOf cfg φ = true := by
  have sw : ∀ o : Outcome, o ≠ .other → o ≠ .ok → swallowed o = true := by
    intro o; cases o <;> decide
  unfold logOkOf
  fun_cases configureLogging cfg φ with
  | case4 =>  -- mkdir escapes
    rename_i hok hsw
    exact absurd (sw _ hφ.1 hok) hsw
  | _ =>
    dsimp only
    fun_cases logDecision _ φ "d" "c" none none none "t" with
    | case5 =>  -- write escapes
      rename_i hok hsw
      exact absurd (sw _ hφ.2.2 hok) hsw
    | case7 =>  -- open escapes
      rename_i hok hsw
      exact absurd (sw _ hφ.2.1 hok) hsw
    | _ => rfl

/-- **fault transparency**: with the log sinks failing in any benign way the hook's stdout is
    identical to a run where logging works (or is off): the verdict does not depend on the sink -/
theorem log_transparent (env : HookEnv) (cfg : Config) (φ : SinkFaults) (hφ : benign φ) (stdin : Stdin) :
    hook { env with logOk := logOkOf cfg φ } stdin = hook { env with logOk := true } stdin := by
  rw [logging_never_raises cfg φ hφ]

/-- the hypothesis is not decoration: an exception class the code does not swallow escapes -/
theorem log_transparent_full_fails :
    ∃ (cfg : Config) (φ : SinkFaults), logOkOf cfg φ = false :=
  ⟨{ log := some "/x/log" }, ⟨.ok, .other, .ok⟩, by decide⟩

/-- a failing sink disables logging for the rest of the process instead of retrying -/
theorem failure_disables (st : LogState) (φ : SinkFaults) (p : String) (hp : st.path = some p) (hd : st.disabled = false)
    (ho : φ.open_ = .osError) :
    logDecision st φ "d" "c" none none none "t" = some ({ st with disabled := true }, none) := by
  simp [logDecision, hp, hd, ho, swallowed]

/-- one line per decision when the sink works (its keys: `entry_keys`) -/
theorem one_line_per_decision (st : LogState) (p : String) (hp : st.path = some p) (hd : st.disabled = false)
    (decision cmd : String) (rule message command : Option String) (ts : String) :
    logDecision st .allOk decision cmd rule message command ts
      = some (st, some (logEntry st decision cmd rule message command ts)) := by
  simp [logDecision, hp, hd, SinkFaults.allOk]

theorem logEntry_eq (st : LogState) (decision cmd : String) (rule message command : Option String) (ts : String) :
    logEntry st decision cmd rule message command ts =
      [("decision", decision), ("cmd", cmd)] ++ (rule.map (("rule", ·))).toList
        ++ (message.map (("message", ·))).toList
        ++ (if st.full then (command.map (("command", ·))).toList else []) ++ [("ts", ts)] := by
  cases rule <;> cases message <;> cases command <;> rfl

theorem mem_logEntry {st : LogState} {decision cmd : String} {rule message command : Option String} {ts : String}
    {kv : String × String} :
    kv ∈ logEntry st decision cmd rule message command ts ↔
      kv = ("decision", decision) ∨ kv = ("cmd", cmd) ∨ (∃ r, rule = some r ∧ ("rule", r) = kv)
        ∨ (∃ m, message = some m ∧ ("message", m) = kv)
        ∨ (st.full = true ∧ ∃ c, command = some c ∧ ("command", c) = kv) ∨ kv = ("ts", ts) := by
  simp only [logEntry_eq, List.mem_append, List.mem_cons, List.not_mem_nil, or_false, Option.mem_toList,
    Option.map_eq_some_iff, List.mem_ite_nil_right, or_assoc]

theorem entry_keys (st : LogState) (decision cmd : String) (rule message command : Option String) (ts : String) :
    ∀ kv ∈ logEntry st decision cmd rule message command ts,
      kv.1 ∈ ["decision", "cmd", "rule", "message", "command", "ts"] := by
  intro kv hkv
  rcases mem_logEntry.mp hkv with rfl | rfl | ⟨_, -, rfl⟩ | ⟨_, -, rfl⟩ | ⟨-, _, -, rfl⟩ | rfl <;> simp

/-- the full command text is recorded only if log-full is set -/
theorem full_only_if_set (st : LogState) (decision cmd : String) (rule message command : Option String) (ts : String) :
    (∃ v, ("command", v) ∈ logEntry st decision cmd rule message command ts)
      ↔ (st.full = true ∧ command.isSome = true) := by
  -- only the `command` disjunct has that key
  simp only [mem_logEntry, Prod.mk.injEq, String.reduceEq, false_and, and_false, exists_false, false_or, or_false,
    true_and, exists_and_left, exists_eq_right, Option.isSome_iff_exists]

/-- logging is off unless a path is configured -/
theorem no_path_no_log (cfg : Config) (φ : SinkFaults) (h : cfg.log = none) :
    configureLogging cfg φ = some {} := by
  simp [configureLogging, h]

/-! ### concurrent appends -/

/-- whatever the interleaving of N processes' single atomic writes, the file holds each line exactly
    once, whole, in schedule order: a permutation of the lines -/
theorem concurrent_lines (lines : Nat → String) (procs schedule : List Nat) (h : schedule.Perm procs) :
    (fileAfter lines schedule).Perm (procs.map lines) := by
  unfold fileAfter
  exact h.map lines

theorem concurrent_count (lines : Nat → String) (procs schedule : List Nat) (h : schedule.Perm procs) :
    (fileAfter lines schedule).length = procs.length := by
  rw [(concurrent_lines lines procs schedule h).length_eq]; simp

end Dippy.C15
