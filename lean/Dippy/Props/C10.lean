/-
C10 — Config layers: user, nearest project file, then $DIPPY_CONFIG, in that order.

`FS` is an arbitrary file system oracle (any directory layout, any symlink structure: `resolve`,
`isFile` and `readText` are unconstrained functions), so the statements hold for every tree.
-/
import Dippy.Model.Load
import Dippy.Props.C11

namespace Dippy.C10

/-! ### the project file is the nearest `.dippy` that is a regular file -/

theorem find_nearest (fs : FS) (ds : List String) (p : String)
    (h : findProjectIn fs ds = some (some p)) :
    ∃ a d b, ds = a ++ d :: b ∧ p = dippyIn d ∧ fs.isFile p = .yes
      ∧ ∀ x ∈ a, fs.isFile (dippyIn x) = .no := by
  revert h
  fun_induction findProjectIn fs ds with
  | case1 => exact nofun  -- no directory left
  -- a regular file here
  | case2 d ds hf => exact fun h => ⟨[], d, ds, rfl, by cases h; rfl, by cases h; exact hf, nofun⟩
  | case3 =>  -- none here: look further up
    rename_i d _ hf ih
    intro h
    obtain ⟨a, d', b, rfl, hp, hy, hno⟩ := ih h
    exact ⟨d :: a, d', b, rfl, hp, hy, fun x hx => (List.mem_cons.mp hx).elim (· ▸ hf) (hno x)⟩
  | case4 => exact nofun  -- `is_file()` raised

/-- directories, symlinks to directories, dangling links named `.dippy` are walked past; with no
    regular `.dippy` on the way to the root there is no project layer -/
theorem find_none (fs : FS) (ds : List String) (h : ∀ d ∈ ds, fs.isFile (dippyIn d) = .no) :
    findProjectIn fs ds = some none := by
  induction ds with
  | nil => rfl
  | cons d ds ih =>
    unfold findProjectIn
    rw [h d (List.mem_cons_self ..)]
    exact ih fun x hx => h x (List.mem_cons_of_mem _ hx)

/-- the walk starts at the *resolved* cwd (a symlinked cwd behaves as its target) and visits
    the directory itself first, then each parent up to the root -/
example : ancestors "/a/b/c" = ["/a/b/c", "/a/b", "/a", "/"] := by decide +kernel
example : dippyIn "/" = "/.dippy" ∧ dippyIn "/a" = "/a/.dippy" := by decide +kernel

/-! ### three layers = one concatenated text -/

/-- everything any verdict, message or log line can depend on, except aliases (tied by T1) and the
    dead `default` field -/
def ObsEq (a b : Config) : Prop :=
  a.rules = b.rules ∧ a.redirectRules = b.redirectRules ∧ a.afterRules = b.afterRules
    ∧ a.mcpRules = b.mcpRules ∧ a.afterMcpRules = b.afterMcpRules ∧ a.log = b.log ∧ a.logFull = b.logFull

theorem ObsEq.refl (a : Config) : ObsEq a a := ⟨rfl, rfl, rfl, rfl, rfl, rfl, rfl⟩

theorem ObsEq.trans {a b c : Config} (h1 : ObsEq a b) (h2 : ObsEq b c) : ObsEq a c := by
  unfold ObsEq at *
  simp only [h1, h2, and_self]

theorem ObsEq.symm {a b : Config} (h : ObsEq a b) : ObsEq b a := by
  unfold ObsEq at *
  simp only [h, and_self]

theorem merge_congr {a a' : Config} (v : Config) (h : ObsEq a a') : ObsEq (mergeConfigs a v) (mergeConfigs a' v) := by
  unfold ObsEq at *
  simp only [mergeConfigs, h, and_self]

theorem merge_empty_right (c : Config) : ObsEq (mergeConfigs c {}) c := by
  simp [ObsEq, mergeConfigs]

theorem splitLinesAux_append (a b cur : List Char) :
    splitLinesAux (a ++ '\n' :: b) cur = splitLinesAux a cur ++ splitLinesAux b [] := by
  fun_induction splitLinesAux a cur <;> simp [splitLinesAux, *]

/-- the lines of `a ⏎ b` are the lines of `a` followed by the lines of `b` -/
theorem splitLines_join (a b : String) : splitLines (a ++ "\n" ++ b) = splitLines a ++ splitLines b := by
  unfold splitLines
  have : (a ++ "\n" ++ b).toList = a.toList ++ '\n' :: b.toList := by simp
  rw [this, splitLinesAux_append, List.map_append]

/-- the text of a layer, `""` when it is absent -/
def layerText (t : Option String) : String := t.getD ""

theorem parse_empty (e : ParseEnv) : parseConfig e "" = {} := by
  unfold parseConfig parseLines
  rw [show splitLines "" = [""] from by decide +kernel, List.foldl_cons, C11.blank_line_skip e "" (by simp)]
  rfl

/-- one optional layer on top of `c` -/
def overlay (e : ParseEnv) (c : Config) : Option String → Config
  | some t => mergeConfigs c (parseConfig e t)
  | none => c

/-- what `load_config` computes when every present layer is readable -/
def merged (e : ParseEnv) (u p v : Option String) : Config :=
  let c0 : Config := {}
  let c1 := match u with | some t => mergeConfigs c0 (parseConfig e t) | none => c0
  let c2 := match p with | some t => mergeConfigs c1 (parseConfig e t) | none => c1
  match v with | some t => mergeConfigs c2 (parseConfig e t) | none => c2

theorem merged_eq (e : ParseEnv) (u p v : Option String) :
    merged e u p v = overlay e (overlay e (overlay e {} u) p) v := rfl

/-- an absent layer contributes the empty text, whose one line is skipped -/
theorem overlay_parse (e : ParseEnv) {c : Config} {ls : List String} (h : ObsEq c (parseLines e ls))
    (t : Option String) : ObsEq (overlay e c t) (parseLines e (ls ++ splitLines (layerText t))) := by
  -- through `mergeConfigs c (parseLines e (splitLines (layerText t)))`, the merge with the parsed layer
  refine ObsEq.trans ?_ ((merge_congr _ h).trans (ObsEq.symm (C11.parse_merge_hom e ls _)))
  cases t with
  | some x => exact ObsEq.refl _
  | none =>
    exact (show parseLines e (splitLines (layerText none)) = {} from parse_empty e) ▸ (merge_empty_right c).symm

/-- **layers = concatenation**: user, then project, then env, absent layers contributing nothing,
    is observably the single text `user ⏎ project ⏎ env` -/
theorem layers_concat (e : ParseEnv) (u p v : Option String) :
    ObsEq (merged e u p v)
      (parseConfig e (layerText u ++ "\n" ++ layerText p ++ "\n" ++ layerText v)) := by
  rw [merged_eq]
  unfold parseConfig
  rw [splitLines_join, splitLines_join]
  exact overlay_parse e (overlay_parse e (overlay_parse e (ls := []) (ObsEq.refl _) u) p) v

/-- and `load_config` returns exactly `merged` on a readable layout -/
theorem load_is_merged (e : ParseEnv) (fs : FS) (userConfig cwd : String) (envPath : Option String)
    (u p v : Option String) (proj : Option String)
    (hu : match u with
      | some t => fs.isFile userConfig = .yes ∧ fs.readText userConfig = .ok t
      | none => fs.isFile userConfig = .no)
    (hp : findProject fs cwd = some proj)
    (hp' : match p with
      | some t => ∃ path, proj = some path ∧ fs.readText path = .ok t
      | none => proj = none)
    (hv : match v with
      | some t => ∃ path, envPath = some path ∧ fs.isFile path = .yes ∧ fs.readText path = .ok t
      | none => envPath = none ∨ ∃ path, envPath = some path ∧ fs.isFile path = .no) :
    loadConfig e fs userConfig cwd (envPath.map some) = .ok (merged e u p v) := by
  rw [merged_eq]
  unfold loadConfig
  extract_lets user project env
  have hU : ∀ c, user c = .ok (overlay e c u) := by
    intro c
    cases u with
    | some t => simp only [user, loadFile, hu.1, hu.2, overlay]
    | none => simp only [user, hu, overlay]
  have hP : ∀ c, project c = .ok (overlay e c p) := by
    intro c
    cases p with
    | some t =>
      obtain ⟨path, rfl, hr⟩ := hp'
      simp only [project, loadFile, hp, hr, overlay]
    | none =>
      subst hp'
      simp only [project, hp, overlay]
  have hV : ∀ c, env c = .ok (overlay e c v) := by
    intro c
    cases v with
    | some t =>
      obtain ⟨path, rfl, hf, hr⟩ := hv
      simp only [env, loadFile, Option.map_some, hf, hr, overlay]
    | none =>
      rcases hv with rfl | ⟨path, rfl, hf⟩
      · simp only [env, Option.map_none, overlay]
      · simp only [env, Option.map_some, hf, overlay]
  rw [hU, addLayer, hP, addLayer, hV]

end Dippy.C10
