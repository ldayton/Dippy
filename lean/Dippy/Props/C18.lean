/-
C18 — verdicts are a pure function of command, configuration, cwd and referenced files: no dependence on
what the process analysed before.  The loader is deterministic per module name (`importlib.import_module`
through `sys.modules`), an analysis is any adaptive lookup program; `lru_transparent` is lifted from one
lookup to analyses, invocations and histories, and T0's inventory of mutable state is what the model covers.
-/
import Dippy.Model.ProcState

namespace Dippy.C18

open Dippy.PS

universe u v

/-- every cached value is the loader's value for its key -/
def Inv {K : Type u} {V : Type v} (f : K → V) (c : List (K × V)) : Prop := ∀ kv ∈ c, kv.2 = f kv.1

/-- the cache is transparent: value, invariant and bound -/
theorem lru_transparent {K : Type u} {V : Type v} [BEq K] [LawfulBEq K] (cap : Nat) (f : K → V) (c : List (K × V)) (k : K)
    (hinv : Inv f c) :
    (lruGet cap f c k).2 = f k ∧ Inv f (lruGet cap f c k).1
      ∧ (c.length ≤ cap → 0 < cap → (lruGet cap f c k).1.length ≤ cap) := by
  unfold lruGet
  cases hf : c.find? (fun kv => kv.1 == k) with
  | none =>
    refine ⟨rfl, fun kv hkv => ?_, fun _ _ => List.length_take_le _ _⟩
    rcases List.mem_cons.mp (List.mem_of_mem_take hkv) with rfl | h
    · rfl
    · exact hinv kv h
  | some kv =>
    have hmem := List.mem_of_find?_eq_some hf
    have hk : kv.1 = k := by simpa using List.find?_some hf
    have hv : kv.2 = f k := hk ▸ hinv kv hmem
    refine ⟨hv, fun e he => ?_, fun hlen _ => ?_⟩
    · rcases List.mem_cons.mp he with rfl | h
      · exact hv
      · exact hinv e (List.mem_filter.mp h).1
    · -- the hit entry itself is filtered out
      have : (c.filter (fun e => !(e.1 == k))).length < c.length :=
        List.length_filter_lt_length_iff_exists.mpr ⟨kv, hmem, by simp [hk]⟩
      simp only [List.length_cons]
      omega

theorem run_transparent {H A : Type} (cap : Nat) (load : String → H) (p : Prog H A) (c : List (String × H))
    (hinv : Inv load c) :
    (p.run cap load c).2 = p.pure load ∧ Inv load (p.run cap load c).1
      ∧ (c.length ≤ cap → 0 < cap → (p.run cap load c).1.length ≤ cap) := by
  induction p generalizing c with
  | done a => exact ⟨rfl, hinv, fun h _ => h⟩
  | look n k ih =>
    obtain ⟨hv, hi, hb⟩ := lru_transparent cap load c n hinv
    obtain ⟨hv', hi', hb'⟩ := ih (lruGet cap load c n).2 _ hi
    simp only [Prog.run, Prog.pure]
    rw [← hv]
    exact ⟨hv', hi', fun hl hc => hb' (hb hl hc) hc⟩

/-- an analysis computes the same against the cache as against the loader, from any sound cache -/
theorem analysis_cache_free {H A : Type} (cap : Nat) (load : String → H) (p : Prog H A) (c : List (String × H))
    (hinv : Inv load c) :
    (p.run cap load c).2 = p.pure load ∧ Inv load (p.run cap load c).1 :=
  ⟨(run_transparent cap load p c hinv).1, (run_transparent cap load p c hinv).2.1⟩

/-- what an invocation prints and whether it logs, as a function of the invocation alone -/
def fresh {H Out : Type} (load : String → H) (explicit : Option Mode) (q : Invocation H Out) : Out × Bool :=
  match effMode explicit q with
  | none => (q.deferOut, false)
  | some m => (q.analysis.pure load m, (logDecision (configure q.logPath q.mkdirOk) q.writeOk).2)

theorem step_transparent {H Out : Type} (cap : Nat) (load : String → H) (explicit : Option Mode) (s : State H)
    (q : Invocation H Out) (hinv : Inv load s.cache) :
    (step cap load explicit s q).2 = fresh load explicit q ∧ Inv load (step cap load explicit s q).1.cache
      ∧ (s.cache.length ≤ cap → 0 < cap → (step cap load explicit s q).1.cache.length ≤ cap) := by
  unfold step fresh
  cases effMode explicit q with
  | none => exact ⟨rfl, hinv, fun h _ => h⟩
  | some m =>
    obtain ⟨hv, hi, hb⟩ := run_transparent cap load q.analysis s.cache hinv
    exact ⟨by simp only [hv], hi, hb⟩

theorem history_cache {H Out : Type} (cap : Nat) (load : String → H) (explicit : Option Mode)
    (hist : List (Invocation H Out)) (s : State H) (hinv : Inv load s.cache) :
    Inv load (runHistory cap load explicit s hist).cache
      ∧ (s.cache.length ≤ cap → 0 < cap → (runHistory cap load explicit s hist).cache.length ≤ cap) := by
  induction hist generalizing s with
  | nil => exact ⟨hinv, fun h _ => h⟩
  | cons q qs ih =>
    obtain ⟨-, hi, hb⟩ := step_transparent cap load explicit s q hinv
    exact ⟨(ih _ hi).1, fun hl hc => (ih _ hi).2 (hb hl hc) hc⟩

/-- history independence: after any sequence of earlier invocations (any commands, configurations,
    hosts, working or failing log sinks, more distinct handlers than the cache holds) the answer – stdout
    and the logging effect – is the one a fresh process gives -/
theorem history_free {H Out : Type} (cap : Nat) (load : String → H) (explicit : Option Mode)
    (hist : List (Invocation H Out)) (q : Invocation H Out) :
    (step cap load explicit (runHistory cap load explicit (init explicit) hist) q).2
      = (step cap load explicit (init explicit) q).2 := by
  have h0 : Inv load (init explicit : State H).cache := fun _ h => by cases h
  rw [(step_transparent cap load explicit _ q (history_cache cap load explicit hist _ h0).1).1,
    (step_transparent cap load explicit _ q h0).1]

/-- re-analysing the same input gives the same answer -/
theorem repeat_same {H Out : Type} (cap : Nat) (load : String → H) (explicit : Option Mode)
    (hist : List (Invocation H Out)) (q : Invocation H Out) :
    (step cap load explicit (runHistory cap load explicit (init explicit) (hist ++ [q])) q).2
      = (step cap load explicit (runHistory cap load explicit (init explicit) hist) q).2 := by
  rw [history_free, history_free]

/-- the cache never grows beyond the configured size along a history -/
theorem cache_bounded {H Out : Type} (cap : Nat) (hcap : 0 < cap) (load : String → H) (explicit : Option Mode)
    (hist : List (Invocation H Out)) :
    (runHistory cap load explicit (init explicit : State H) hist).cache.length ≤ cap :=
  (history_cache cap load explicit hist _ (fun _ h => by cases h)).2 (Nat.zero_le cap) hcap

/-- `configure_logging` leaves logging disabled only where it also leaves it unconfigured (the directory could
    not be made); that an earlier failed write does not silence a later invocation is part of `history_free` -/
theorem log_rearmed (logPath : Option String) (mkdirOk : Bool) :
    (configure logPath mkdirOk).disabled = true → (configure logPath mkdirOk).configured = none := by
  unfold configure
  cases logPath with
  | none => simp
  | some p => cases mkdirOk <;> simp

/-! ### T0 obligations -/

/-- the state the model accounts for: the handler cache, MODE, and the two logging globals – and
    nothing else is found in the source -/
theorem inventory_covered :
    Generated.mutableState =
      [("cli/__init__.py", "cache", "_load_handler"), ("core/config.py", "global", "_log_config"),
       ("core/config.py", "global", "_log_disabled"), ("dippy.py", "global", "MODE")] := rfl

/-- the shape facts the step function relies on: MODE is assigned before it is read, nowhere else;
    `_log_disabled` is reset first; every path of configure_logging assigns `_log_config` -/
theorem shape_facts :
    Generated.mainAssignsModeFirst = true ∧ Generated.modeStores = 2 ∧ Generated.configureResetsDisabledFirst = true
      ∧ Generated.configureAssignsLogConfig = 3 ∧ 0 < Generated.handlerCacheSize :=
  ⟨rfl, rfl, rfl, rfl, by decide +kernel⟩

/-! ### non-vacuity -/

/-- a history touching more modules than a capacity-2 cache holds; the evicted module is re-loaded with the
    same value -/
example :
    let load : String → Nat := fun n => n.length
    let look3 : Prog Nat (Mode → Nat) := .look "git" fun a => .look "docker" fun b => .look "kubectl" fun c => .done fun _ => a + b + c
    let q : Invocation Nat Nat := ⟨some .claude, none, true, true, look3, 0⟩
    (step 2 load none (runHistory 2 load none (init none) [q, q]) q).2 = (16, false)
      ∧ (runHistory 2 load none (init none : State Nat) [q, q]).cache.map (·.1) = ["kubectl", "docker"] := by
  decide +kernel

end Dippy.C18
