/-
C01 — No hidden execution: approval covers every command bash would run.

`Child` / `Reach` (Spec/Reach.lean) list the positions bash evaluates; `w : World` is arbitrary
(any rule set, any handler answers, any parser answers) and `rec` is the re-analysis of strings.
-/
import Dippy.Lemmas.Reach
import Dippy.Generated.Parable
import Dippy.Generated.Tables
import Dippy.Lemmas.StrTable

namespace Dippy.C01

variable (w : World) (rec : Rec) (h : HelpTables)

/-- **no hidden execution (one level)**: if a tree is auto-approved, every command reachable in it
    through any chain of evaluated positions – lists, pipelines, control structures, function bodies,
    command/process substitutions, array elements, redirect targets, `[[ ]]` operands … – is itself
    auto-approved when analysed on its own (under the cwd in effect at that point) -/
theorem no_hidden_execution (n c : Node) (cwd cwd' : String) (r : Bool)
    (ha : (aNode w rec h n cwd r).action = .allow)
    (hr : Reach w.resolveCd w.arithWalked r (.node n, cwd) (.node c, cwd')) :
    (aNode w rec h c cwd' r).action = .allow :=
  (allow_iff_atoms w rec h c cwd' r).2 (reach_allowed w rec h n cwd r ha hr)

/-- what an approved raw text guarantees: the scanner vouches for every substitution it hands on,
    and each one is itself approved -/
theorem scan_item_allowed (cwd : String) (r : Bool) (it : ScanItem)
    (ha : (scanItemDecision rec cwd r it).action = .allow) :
    ∃ inner, it = .sub inner true ∧ (rec inner cwd r).action = .allow := by
  revert ha
  fun_cases scanItemDecision rec cwd r it with
  | case1 => rename_i hd; exact fun ha => absurd ha hd  -- not allow: passed on
  | case2 inner rel d0 d =>  -- allow
    intro ha
    cases rel with
    | true => exact ⟨inner, rfl, ha⟩
    | false => by_cases h0 : d0.action = .allow <;> simp [d, d0, h0] at ha  -- `d`, `d0`: the `let`s of the case
  | case3 => exact nofun  -- unanalyzable text

/-- raw texts: if a tree is auto-approved, then in every reachable raw text (parameter names with
    subscripts and arguments, here-document bodies, arithmetic text, case patterns, `[[ ]]` operands)
    every substitution the scanner finds is reliably delimited and approved -/
theorem text_substitutions_allowed (n : Node) (ps : Bool) (t : String) (cwd cwd' : String) (r : Bool)
    (ha : (aNode w rec h n cwd r).action = .allow)
    (hr : Reach w.resolveCd w.arithWalked r (.node n, cwd) (.text ps t, cwd'))
    (it : ScanItem) (hit : it ∈ scanItems ps t) :
    ∃ inner, it = .sub inner true ∧ (rec inner cwd' r).action = .allow := by
  have hall := reach_allowed w rec h n cwd r ha hr _ (List.mem_singleton.2 rfl)
  rw [atomDecisions, scanArg_some] at hall
  exact scan_item_allowed rec cwd' r it (hall _ (List.mem_map_of_mem hit))

theorem approved_string (fuel : Nat) (s cwd : String) (r : Bool)
    (ha : (analyzeStr w h fuel s cwd r).action = .allow) :
    ∃ f nodes, fuel = f + 1 ∧ w.parse (stripCmd s) = .ok nodes ∧
      ∀ n ∈ nodes, (aNode w (analyzeStr w h f) h n cwd r).action = .allow := by
  revert ha
  fun_cases analyzeStr w h fuel s cwd r with
  | case5 =>  -- the one branch that does not answer ask
    rename_i f nodes _ _ _ hp
    intro ha
    rw [combine_action, S_eq_allow, aNodes_eq_map] at ha
    exact ⟨f, nodes, rfl, hp, fun n hn => ha _ (List.mem_map_of_mem hn)⟩
  | _ => exact nofun

/-- the commands bash runs for a *string*, to any depth of re-parsed raw text: a command node
    reachable in the parse of the string, or in the parse of a substitution found in a reachable
    raw text, and so on -/
inductive Runs : String → String → Bool → Node → String → Prop where
  | here {s cwd r nodes n c cwd'} :
      w.parse (stripCmd s) = .ok nodes → n ∈ nodes →
      Reach w.resolveCd w.arithWalked r (.node n, cwd) (.node c, cwd') → Runs s cwd r c cwd'
  | inText {s cwd r nodes n ps t cwd' inner rel c cwd''} :
      w.parse (stripCmd s) = .ok nodes → n ∈ nodes →
      Reach w.resolveCd w.arithWalked r (.node n, cwd) (.text ps t, cwd') →
      ScanItem.sub inner rel ∈ scanItems ps t →
      Runs inner cwd' r c cwd'' → Runs s cwd r c cwd''

/-- **no hidden execution**: if Dippy auto-approves a command string then every command bash runs
    for it, in any nested position and to any depth of nesting, is a command Dippy auto-approves on
    its own -/
theorem no_hidden_execution_deep (fuel : Nat) (s cwd : String) (r : Bool) (c : Node) (cwd' : String)
    (ha : (analyzeStr w h fuel s cwd r).action = .allow)
    (hrun : Runs w s cwd r c cwd') :
    ∃ f, (aNode w (analyzeStr w h f) h c cwd' r).action = .allow := by
  induction hrun generalizing fuel with
  | here hp hn hr =>
    obtain ⟨f, _, _, hp', hall⟩ := approved_string w h fuel _ _ _ ha
    cases hp.symm.trans hp'
    exact ⟨f, no_hidden_execution w _ h _ _ _ _ _ (hall _ hn) hr⟩
  | inText hp hn hr hit _ ih =>
    obtain ⟨f, _, _, hp', hall⟩ := approved_string w h fuel _ _ _ ha
    cases hp.symm.trans hp'
    obtain ⟨_, he, hallow⟩ := text_substitutions_allowed w _ h _ _ _ _ _ _ (hall _ hn) hr _ hit
    cases he
    exact ih f hallow

/-! ### raw text whose quoting the scan cannot know -/

/-- when the body of a substitution found in raw text contains a single quote, the body is scanned as raw text too:
    whatever it seems to quote is among the items that are re-analysed (`${x:+a '$(A='$(cmd)' b)'}` runs `cmd`) -/
theorem scan_rescans_quoted_body (ps : Bool) (n : Nat) (t inner rest : List Char) (rel : Bool)
    (hf : findEnd (t.length + 1) t 1 true none [] = .found inner rest rel) (hq : inner.contains '\'' = true)
    (it : ScanItem) (hit : it ∈ scanAux ps n inner) :
    it ∈ scanAux ps (n + 1) ('$' :: '(' :: t) := by
  simp only [scanAux, hf, hq, decide_true, Bool.true_or, ↓reduceIte, List.mem_cons, List.mem_append]
  exact Or.inl hit

example : ScanItem.sub "nope" true ∈ scanItems true "a '$(A='$(nope)' 2ok -l 'a;b')' b" := by decide +kernel

-- the subscript of an array assignment is taken up to the *last* `]=` of the word: brackets inside it do not cut it
example : assignSubscript "a['$(while b[$(wc -l)]=v; do rm x; done)']=1" = some "'$(while b[$(wc -l)]=v; do rm x; done)'" := by
  decide +kernel
example : assignSubscript "a[1]='$(x)'" = some "1" := by decide +kernel
example : ScanItem.sub "while b[$(wc -l)]=v; do rm x; done" true ∈ scanItems false "'$(while b[$(wc -l)]=v; do rm x; done)'" := by
  decide +kernel

/-! ### table obligations (re-derived from the source on every run) -/

/-- kinds that are not commands: sub-syntax the walk handles inside words, redirections, tests … -/
def subSyntaxKinds : List String :=
  ["word", "redirect", "heredoc", "pattern", "param", "param-len", "param-indirect", "cmdsub", "arith",
   "number", "var", "binary-op", "unary-op", "pre-incr", "post-incr", "pre-decr", "post-decr", "assign",
   "ternary", "comma", "subscript", "escape", "arith-deprecated", "arith-concat", "ansi-c", "locale",
   "procsub", "unary-test", "binary-test", "cond-and", "cond-or", "cond-not", "cond-paren", "array"]

/-- command-level kinds that are answered ask -/
def askedKinds : List String := ["operator", "pipe-both"]

/-- every node kind Parable can produce is dispatched by the walk, is sub-syntax, or is asked about:
    a new kind in the vendored parser breaks this obligation -/
theorem kinds_accounted :
    Generated.parableKinds.all (fun k =>
      Generated.dispatchedKinds.contains k || subSyntaxKinds.contains k || askedKinds.contains k) = true := by
  simp only [← contains_strKey]  -- compared through their byte keys (Lemmas/StrTable)
  decide +kernel

/-- the walk dispatches on exactly the kinds the model has constructors for -/
theorem dispatched_kinds :
    Generated.dispatchedKinds = ["command", "pipeline", "list", "if", "while", "until", "for", "for-arith",
      "select", "case", "function", "subshell", "brace-group", "time", "negation", "coproc", "cond-expr",
      "arith-cmd", "comment", "empty"] := rfl

end Dippy.C01
