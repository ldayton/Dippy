/-
C04 — wrappers and launchers never launder a command.

What is proved, for every token list / argument string:
  (a) re-quoting is faithful: bash reads `bash_join ts` back as exactly `ts`, and its first word is never an
      assignment prefix;
  (b) a handler's `delegate` answer is the whole verdict – the help/version shortcut and the description tables are
      out of the way – so the launcher is judged exactly as the inner command text (plus the launcher's own write
      targets);
  (c) the pure wrappers (`time`, `timeout N`, `nice [-n N]`, `nohup`, `command [--]`) give exactly the wrapped
      command's verdict;
  (d) which words each modelled handler hands on: a suffix of the command line (for env unless a split-string option
      hands a string on verbatim), every `-exec` clause of `find`, the verbatim `-c` string of a shell.
Whether the *skipped* prefix is what the real tool treats as options is not a theorem: it is validated against the real
env/xargs/find/timeout/nice/nohup/sh by T2 (harness/props/c04.py).
-/
import Dippy.Lemmas.Quote
import Dippy.Lemmas.Wrappers
import Dippy.Lemmas.Simple
import Dippy.Generated.Tables

namespace Dippy.C04

open Dippy.W Dippy.Generated.H

/-! ### (a) quoting -/

/-- bash reads the re-joined text back as the original argument vector – for every vector -/
theorem quote_roundtrip {alnum : Char → Bool} (hs : SoundAlnum alnum) (ts : List (List Char)) :
    shellWords (bashJoinL alnum ts) = some ts := by
  cases ts with
  | nil => rfl
  | cons t ts => exact lex_joinSp _ (reads_quote hs) _ _ (reads_quoteFirst hs t) ts

/-- Python's `str.isalnum` (T0's Unicode table) accepts no blank, quote or metacharacter -/
theorem pyAlnum_sound : SoundAlnum Py.isAlnum := by
  -- the special characters are ASCII; below 127 the (sorted) table has digits and letters only
  have split : Generated.alnumRanges = [(48, 57), (65, 90), (97, 122)] ++ Generated.alnumRanges.drop 3 := rfl
  have above : (Generated.alnumRanges.drop 3).all (fun r => 127 ≤ r.1) = true := by decide +kernel
  have ascii : ([' ', '\t', '\n', '\'', '"'] ++ shellMeta).all
      (fun c => decide (c.toNat < 127) && !Py.inRanges [(48, 57), (65, 90), (97, 122)] c) = true := by decide +kernel
  intro c hc
  cases hsp : shellSpecial c with
  | false => rfl
  | true =>
    have hmem : c ∈ [' ', '\t', '\n', '\'', '"'] ++ shellMeta := by
      simpa [shellSpecial, isBlank, isMetaChar, or_assoc] using hsp
    have := List.all_eq_true.mp ascii c hmem
    simp only [Bool.and_eq_true, decide_eq_true_eq, Bool.not_eq_true'] at this
    rw [Py.isAlnum, split, Py.inRanges, List.any_append, ← Py.inRanges, ← Py.inRanges, this.2,
      inRanges_below _ 127 c above this.1] at hc
    cases hc

/-- the shipped `bash_join`: for every list of strings -/
theorem quote_roundtrip_py (ts : List String) :
    shellWords (bashJoin ts).toList = some (ts.map String.toList) := by
  unfold bashJoin
  simpa using quote_roundtrip pyAlnum_sound (ts.map String.toList)

/-- word role: the first word of the re-joined text is never read as an assignment prefix -/
theorem first_word_is_command {alnum : Char → Bool} (hs : SoundAlnum alnum) (t : List Char) :
    isAssignWord (String.ofList (quoteFirstL alnum t)) = false := by
  rcases quoteFirstL_cases hs t with ⟨hq, _, _, ha⟩ | hq <;> rw [hq]
  · exact ha
  · -- a quote starts no name
    simp [isAssignWord, isNameStart]

example : bashJoin ["FOO=1", "ls", "a b", "it's", ""] = "'FOO=1' ls 'a b' 'it'\"'\"'s' ''" := by decide +kernel
example : shellWords "'FOO=1' ls 'a b' 'it'\"'\"'s' ''".toList
    = some ["FOO=1".toList, "ls".toList, "a b".toList, "it's".toList, []] := by decide +kernel

/-! ### (b) a delegate answer is the verdict -/

section verdict
variable (w : World) (rec : Rec) (h : HelpTables)

/-- when the handler delegates, the verdict is that of the inner command text – whatever help- or
    version-looking tokens surround it – unless one of the launcher's own write targets objects -/
theorem delegate_verdict (tokens : List String) (cwd : String) (rem : Bool) (inner : String)
    (hs : w.simpleSafe (tokens.headD "") = false)
    (hh : w.hasHandler (tokens.headD "") = true)
    (ha : (w.classify tokens).action = "delegate")
    (hi : Py.truthy (w.classify tokens).innerCommand = some inner)
    (ht : (w.classify tokens).redirectTargets = []) :
    builtinVerdict w rec h.helpWords h.helpFlags2 h.helpFlagsLast tokens cwd rem
      = rec inner cwd (w.classify tokens).remote := by
  -- `simp` turns `headD` into `head?.getD`: `hs`, `hh` are put in that form first
  have e : tokens.headD "" = tokens.head?.getD "" := by simp
  rw [e] at hs hh
  unfold builtinVerdict runsInner
  simp [hs, hh, ha, hi, ht]

/-- in particular the generic help shortcut never answers for a launcher that runs something:
    its verdict does not depend on the help/version tables at all -/
theorem no_help_shortcut_for_launchers (tokens : List String) (cwd : String) (rem : Bool)
    (hr : runsInner w tokens = true) :
    builtinVerdict w rec h.helpWords h.helpFlags2 h.helpFlagsLast tokens cwd rem
      = builtinVerdict w rec [] [] [] tokens cwd rem := by
  unfold builtinVerdict
  simp [hr, isVersionOrHelp]

/-! ### (c) pure wrappers -/

theorem clusterTakesNext_of_not_dash (flags : List String) (c : String) (h : Py.startsWith c "-" = false) :
    clusterTakesNext flags c = false := by simp [clusterTakesNext, h]

theorem clusterTakesNext_double_dash (flags : List String) : clusterTakesNext flags "--" = false := by
  have : Py.startsWith "--" "--" = true := by decide +kernel
  simp [clusterTakesNext, this]

theorem skipWrapperAux_operand (fwa : WrapOpts) (dur : Bool) (c : String) (cs : List String)
    (hdur : (dur && (Py.isDigitStr c || Py.isDigitStr (Py.removeChar c '.') || isDuration c)) = false)
    (hfwa : c ∉ fwa.flags) (hflag : Py.startsWith c "-" = false) :
    skipWrapperAux fwa false dur (c :: cs) = c :: cs := by
  have hne : c ≠ "--" := by rintro rfl; revert hflag; decide
  simp [skipWrapperAux, hflag, hne, hfwa, hdur, clusterTakesNext_of_not_dash _ _ hflag]

/-- a wrapper that takes no duration (nice, nohup, command, strace …) skips no number: `command 30 x` names the
    program `30` -/
theorem skip_no_number (fwa : WrapOpts) (n : String) (cs : List String) (hd : fwa.duration = false)
    (hfwa : n ∉ fwa.flags) (hflag : Py.startsWith n "-" = false) :
    skipWrapperArgs fwa (n :: cs) = n :: cs :=
  skipWrapperAux_operand fwa _ n cs (by simp [hd]) hfwa hflag

theorem skipWrapperAux_double_dash (fwa : WrapOpts) (dur : Bool) (cs : List String) (hfwa : "--" ∉ fwa.flags) :
    skipWrapperAux fwa false dur ("--" :: cs) = cs := by
  have hnum : (Py.isDigitStr "--" || Py.isDigitStr (Py.removeChar "--" '.') || isDuration "--") = false := by
    decide +kernel
  simp [skipWrapperAux, hnum, hfwa, clusterTakesNext_double_dash]

theorem skip_double_dash (fwa : WrapOpts) (cs : List String) (hfwa : "--" ∉ fwa.flags) :
    skipWrapperArgs fwa ("--" :: cs) = cs := skipWrapperAux_double_dash fwa _ cs hfwa

/-- `timeout 30s cmd`, `timeout 1.5m cmd`, `timeout 5 cmd`: the duration – one word – is skipped … -/
theorem skip_duration (fwa : WrapOpts) (d : String) (cs : List String) (hd : fwa.duration = true)
    (hdur : (Py.isDigitStr d || Py.isDigitStr (Py.removeChar d '.') || isDuration d) = true) :
    skipWrapperArgs fwa (d :: cs) = skipWrapperAux fwa false false cs := by
  simp [skipWrapperArgs, skipWrapperAux, hd, hdur]

/-- … and the word after it is the command, whatever it looks like (`timeout 5 10 x` runs `10`) -/
theorem skip_after_duration (fwa : WrapOpts) (c : String) (cs : List String)
    (hfwa : c ∉ fwa.flags) (hflag : Py.startsWith c "-" = false) :
    skipWrapperAux fwa false false (c :: cs) = c :: cs :=
  skipWrapperAux_operand fwa false c cs rfl hfwa hflag

/-- `-n 5`, `-s KILL`: an option of the table takes the next word with it -/
theorem skip_flag_with_arg (fwa : WrapOpts) (f a : String) (cs : List String) (hf : f ∈ fwa.flags)
    (hdur : (fwa.duration && (Py.isDigitStr f || Py.isDigitStr (Py.removeChar f '.') || isDuration f)) = false) :
    skipWrapperArgs fwa (f :: a :: cs) = skipWrapperAux fwa false fwa.duration cs := by
  simp [skipWrapperArgs, skipWrapperAux, hf, hdur]

/-- `-vk 3`, `-vs KILL`: so does a cluster of short options whose first value-taking letter is its last -/
theorem skip_cluster_with_arg (fwa : WrapOpts) (f a : String) (cs : List String) (hf : clusterTakesNext fwa.flags f = true)
    (hdur : (fwa.duration && (Py.isDigitStr f || Py.isDigitStr (Py.removeChar f '.') || isDuration f)) = false) :
    skipWrapperArgs fwa (f :: a :: cs) = skipWrapperAux fwa false fwa.duration cs := by
  simp [skipWrapperArgs, skipWrapperAux, hf, hdur]

example : clusterTakesNext ["-s", "--signal", "-k", "--kill-after"] "-vk" = true
    ∧ clusterTakesNext ["-s", "--signal", "-k", "--kill-after"] "-vk3" = false
    ∧ clusterTakesNext ["-s", "--signal", "-k", "--kill-after"] "-vsKILL" = false
    ∧ clusterTakesNext ["-s", "--signal", "-k", "--kill-after"] "-k" = false
    ∧ clusterTakesNext ["-s", "--signal", "-k", "--kill-after"] "-v" = false := by decide +kernel

theorem skip_flag (fwa : WrapOpts) (f : String) (cs : List String) (hf : Py.startsWith f "-" = true) (hd : f ≠ "--")
    (hfwa : f ∉ fwa.flags) (hcl : clusterTakesNext fwa.flags f = false)
    (hdur : (fwa.duration && (Py.isDigitStr f || Py.isDigitStr (Py.removeChar f '.') || isDuration f)) = false) :
    skipWrapperArgs fwa (f :: cs) = skipWrapperAux fwa false fwa.duration cs := by
  simp [skipWrapperArgs, skipWrapperAux, hf, hd, hfwa, hdur, hcl]

/-- T0: the wrapper loop's DURATION test in the source is the one the model implements: for `timeout` only, the
    pattern `isDuration` transcribes, and at most once -/
theorem wrapper_duration_facts :
    Generated.wrapperDurationCommands = ["timeout"]
      ∧ Generated.wrapperDurationPattern = "(\\d+\\.?\\d*|\\.\\d+)[smhd]?"
      ∧ Generated.wrapperDurationOnce = true := by decide +kernel

example : isDuration "30s" = true ∧ isDuration "1.5m" = true ∧ isDuration ".5" = true ∧ isDuration "2h" = true
    ∧ isDuration "5x" = false ∧ isDuration "7z" = false ∧ isDuration "s" = false ∧ isDuration "1.2.3" = false
    ∧ isDuration "" = false ∧ isDuration "." = false := by decide +kernel

/-- `W args… c` has exactly the verdict of `c` when no rule is written for the wrapped form -/
theorem pure_wrapper_exact (n : Nat) (W : String) (rest inner : List String) (cwd : String) (rem : Bool)
    (hw : w.wrapper W = true)
    (hrest : rest.isEmpty = false)
    (hcv : (W == "command" && (rest.headD "" == "-v" || rest.headD "" == "-V")) = false)
    (hm : w.matchCommand (W :: rest) cwd rem = none)
    (hskip : skipWrapperArgs (w.wrapperArgFlags W) rest = inner) (hinner : inner.isEmpty = false) :
    simpleCmd w rec h (n + 2) (W :: rest) cwd rem = simpleCmd w rec h (n + 1) inner cwd rem :=
  wrapper_transparent w rec h n W rest inner cwd rem hw hrest hcv hskip hinner hm

end verdict

/-! ### (d) what the handlers hand on -/

/-- xargs: the delegated text is the re-quoting of a non-empty suffix of the command line -/
theorem xargs_inner_suffix (tokens : List String) (c : Classification)
    (hc : xargsClassify tokens = c) (hd : c.action = "delegate") :
    ∃ inner, inner ≠ [] ∧ inner <:+ tokens.drop 1 ∧ c.innerCommand = some (bashJoin inner) := by
  subst hc
  revert hd
  fun_cases xargsClassify tokens with
  | case2 =>  -- an interactive flag
    rename_i hu
    simp [xargsUnsafe_asks _ _ hu]
  | case4 =>  -- a command is left
    rename_i hne
    exact fun _ => ⟨_, hne, xargsSkip_suffix _ _, rfl⟩
  | _ => simp [ask]

theorem archSkip_suffix (b : Bool) (l : List String) : archSkip b l <:+ l := by
  fun_induction archSkip b l <;> simp [List.suffix_cons_iff, *]

theorem caffSkip_suffix (b : Bool) (l : List String) : caffSkip b l <:+ l := by
  fun_induction caffSkip b l <;> simp [List.suffix_cons_iff, *]

/-- env hands on a non-empty suffix of its words, re-quoted – unless a split-string option is present (then the string
    is handed on verbatim, like a shell's `-c` string): `--split-string[=…]` or a short-option word containing `S` -/
theorem envLoop_suffix (b : Bool) (l : List String) (c : Classification) (hc : envLoop b l = c) (hd : c.action = "delegate") :
    (∃ inner, inner ≠ [] ∧ inner <:+ l ∧ c.innerCommand = some (bashJoin inner))
      ∨ (∃ t, t ∈ l ∧ (t = "--split-string" ∨ Py.startsWith t "--split-string=" = true
          ∨ (isShort t = true ∧ 'S' ∈ t.toList))) := by
  subst hc
  fun_induction envLoop b l with
  | case1 => simp [allow] at hd  -- no words left
  | case3 t rest =>  -- `--`
    obtain ⟨h1, h2⟩ := envInner_delegates rest hd
    exact .inl ⟨rest, h1, List.suffix_cons t rest, h2⟩
  | case4 =>  -- `--split-string`
    rename_i h
    exact .inr ⟨_, List.mem_cons_self, .inl (by simpa using h)⟩
  | case5 =>  -- `--split-string=…`
    rename_i h
    exact .inr ⟨_, List.mem_cons_self, .inr (.inl h)⟩
  | case6 t | case7 t =>  -- a cluster where `S` takes the value
    rename_i ch _ hx hS _
    obtain rfl : ch = 'S' := by simpa using hS
    by_cases hshort : isShort t = true
    · rw [if_pos hshort] at hx
      exact .inr ⟨t, List.mem_cons_self, .inr (.inr ⟨hshort, List.mem_of_mem_drop (clusterFind_mem _ _ _ _ hx)⟩)⟩
    · simp [hshort] at hx
  | case13 t rest =>  -- the first operand
    obtain ⟨h1, h2⟩ := envInner_delegates (t :: rest) hd
    exact .inl ⟨t :: rest, h1, List.suffix_refl _, h2⟩
  | _ =>  -- the loop goes on: what holds of `rest` holds of `t :: rest`
    rename_i ih
    exact (ih hd).imp (fun ⟨inner, h1, h2, h3⟩ => ⟨inner, h1, h2.trans (List.suffix_cons _ _), h3⟩)
      (fun ⟨x, hx, hx'⟩ => ⟨x, List.mem_cons_of_mem _ hx, hx'⟩)

theorem fdClause_rest_le (l : List String) : (fdClause l).2.length ≤ l.length := by
  fun_induction fdClause l <;> simp <;> omega

/-- the fuel the caller passes (the number of words) is enough: more fuel changes nothing -/
theorem fdLoop_fuel (f : Nat) (l clauses : List String) (desc : Option String) (h : l.length ≤ f) :
    fdLoop (f + 1) l clauses desc = fdLoop f l clauses desc := by
  induction f generalizing l clauses desc with
  | zero =>
    cases l with
    | nil => simp [fdLoop]
    | cons _ _ => simp at h
  | succ f ih =>
    cases l with
    | nil => simp [fdLoop]
    | cons t rest =>
      have hr : rest.length ≤ f := by simpa using h
      have hc : (fdClause rest).2.length ≤ f := Nat.le_trans (fdClause_rest_le rest) hr
      rw [fdLoop, fdLoop]
      simp only
      split
      · split  -- an exec flag
        · rfl  -- without a command
        · exact ih _ _ _ hc  -- with its clause
      · exact ih _ _ _ hr  -- another word

theorem fdFinish_keeps (clauses : List String) (desc : Option String)
    (hd : (fdFinish clauses desc).action = "delegate") :
    (fdFinish clauses desc).innerCommand = some (" ; ".intercalate clauses) := by
  unfold fdFinish at hd ⊢
  split <;> simp_all [allow, delegate]

/-- fd: the clauses gathered so far are never dropped – a delegation carries all of them, in order, joined by `;` -/
theorem fdLoop_keeps (f : Nat) (l clauses : List String) (desc : Option String)
    (hd : (fdLoop f l clauses desc).action = "delegate") :
    ∃ extra, (fdLoop f l clauses desc).innerCommand = some (" ; ".intercalate (clauses ++ extra)) := by
  fun_induction fdLoop f l clauses desc with
  | case1 | case2 => exact ⟨[], by simpa using fdFinish_keeps _ _ hd⟩  -- out of fuel, out of words
  | case3 => simp [ask] at hd  -- exec flag, no command
  | case4 =>  -- exec flag with its clause
    rename_i first more _ ih
    obtain ⟨extra, he⟩ := ih hd
    exact ⟨bashJoin (first :: more) :: extra, by simpa using he⟩
  | case5 =>  -- any other word
    rename_i ih
    exact ih hd

/-- fd: an exact `-x`/`-X`/`--exec`/`--exec-batch` adds its clause – the words up to `;` – and the scan goes on
    after it -/
theorem fd_exec_step (f : Nat) (t : String) (rest clauses : List String) (desc : Option String)
    (ht : t ∈ fd_EXEC_FLAGS) (first : String) (more : List String) (hc : (fdClause rest).1 = first :: more) :
    ∃ d, fdLoop (f + 1) (t :: rest) clauses desc = fdLoop f (fdClause rest).2 (clauses ++ [bashJoin (first :: more)]) d := by
  have hm : fd_EXEC_FLAGS.contains t = true := by simpa using ht
  rw [fdLoop]
  simp only [hm, ↓reduceIte, List.nil_append, hc]
  exact ⟨_, rfl⟩

/-- fd: a combined or attached short form (`-Hx cmd`, `-xcmd`) is an exec flag too: the attached text starts the
    command -/
theorem fd_cluster_step (f : Nat) (t : String) (rest clauses : List String) (desc : Option String)
    (hx : t ∉ fd_EXEC_FLAGS) (he : fdEqForm t = none) (flag : String) (head : List String) (hc : fdCluster t = some (flag, head))
    (first : String) (more : List String) (hcl : head ++ (fdClause rest).1 = first :: more) :
    ∃ d, fdLoop (f + 1) (t :: rest) clauses desc = fdLoop f (fdClause rest).2 (clauses ++ [bashJoin (first :: more)]) d := by
  rw [fdLoop]
  simp only [hx, he, hc, hcl, List.contains_eq_mem, decide_false, Bool.false_eq_true, ↓reduceIte]
  exact ⟨_, rfl⟩

/-- fd: the delegated text is clauses joined by ` ; ` (which clauses: `fdLoop_keeps`, the two step theorems) -/
theorem fd_inner_clauses (tokens : List String) (hd : (fdClassify tokens).action = "delegate") :
    ∃ cs, (fdClassify tokens).innerCommand = some (" ; ".intercalate cs) := by
  revert hd
  fun_cases fdClassify tokens with
  | case1 => simp [allow]  -- `fd` alone
  | case2 => exact fun hd => by simpa using fdLoop_keeps _ _ [] none hd  -- the clause loop

example : (fdClassify ["fd", "-x", "echo", ";", "-x", "rm"]).innerCommand = some "echo ; rm" := by decide +kernel
example : (fdClassify ["fd", "--exec=rm", "-rf"]).innerCommand = some "rm -rf" := by decide +kernel
example : (fdClassify ["fd", "-Hx", "rm"]).innerCommand = some "rm" := by decide +kernel
example : (fdClassify ["fd", "-xrm", "-h"]).innerCommand = some "rm -h" := by decide +kernel
example : (fdClassify ["fd", "-e", "py", "pat"]).action = "allow" := by decide +kernel
example : (fdClassify ["fd", "pat", "-X", "grep", "-x", "foo"]).innerCommand = some "grep -x foo" := by decide +kernel

/-- uv run: the delegated text is the re-quoting of a non-empty suffix of the words after `uv run` -/
theorem uv_run_inner_suffix (tokens : List String) (hd : (uvRunClassify tokens).action = "delegate") :
    ∃ inner, inner ≠ [] ∧ inner <:+ tokens.drop 2 ∧ (uvRunClassify tokens).innerCommand = some (bashJoin inner) := by
  revert hd
  fun_cases uvRunClassify tokens with
  | case1 => simp [ask]  -- no command left
  | case2 first more hs =>  -- a command is left
    exact fun _ => ⟨first :: more, by simp, hs ▸ uvRunSkip_suffix _ _, rfl⟩

/-- tar: an option that makes tar run a program of the caller's choosing is never approved, whatever else is on the
    line -/
theorem tar_program_option_asks (tokens : List String) (other : String) (h : tarRunsOther (tokens.drop 1) = some other) :
    (tarClassify tokens).action = "ask" := by
  unfold tarClassify
  simp only [h]
  rfl

/-- tar: when extracting, every `--to-command` is part of the delegated text -/
theorem tar_all_to_commands (tokens : List String) (hno : tarRunsOther (tokens.drop 1) = none)
    (hx : tarDetect tokens = some "extract")
    (hne : ((tarToCommands (tokens.drop 1)).filter (fun c => !c.isEmpty)).isEmpty = false) :
    (tarClassify tokens).action = "delegate" ∧
      (tarClassify tokens).innerCommand = some ("\n".intercalate ((tarToCommands (tokens.drop 1)).filter (fun c => !c.isEmpty))) := by
  unfold tarClassify
  simp only [hno, hne, hx, Bool.not_false, beq_self_eq_true, Bool.and_self, ↓reduceIte]
  exact ⟨rfl, rfl⟩

/-- tar: `--to-command` stands in for tar's own verdict only when tar extracts (creating, appending, updating and
    deleting write files of their own whatever the option says) -/
theorem tar_delegates_only_extract (tokens : List String) (hd : (tarClassify tokens).action = "delegate") :
    tarDetect tokens = some "extract" := by
  revert hd
  fun_cases tarClassify tokens with
  | case2 =>  -- `--to-command`, extracting
    rename_i h
    simp only [Bool.and_eq_true, beq_iff_eq] at h
    exact fun _ => h.2
  | _ => simp [ask, allow]

/-- tar: approval without delegation is the listing mode only -/
theorem tar_allow_is_list (tokens : List String) (ha : (tarClassify tokens).action = "allow") :
    tarDetect tokens = some "list" := by
  revert ha
  fun_cases tarClassify tokens with
  | case3 =>  -- the listing mode
    rename_i h
    exact fun _ => h
  | _ => simp [ask, delegate]

example : (tarClassify ["tar", "-cf", "/tmp/x.tar", "--to-command=cat", "/etc"]).action = "ask" := by decide +kernel
example : (tarClassify ["tar", "-xf", "a.tar", "--to-command=cat"]).action = "delegate" := by decide +kernel

/-- a shell's `-c`: the inner command is one of the command line's words, verbatim (no re-quoting, no truncation),
    namely the one right after the first short-option cluster containing `c` among the shell's options -/
theorem shell_c_verbatim (tokens : List String) (c : Classification)
    (hc : shellClassify tokens = c) (hd : c.action = "delegate") :
    ∃ inner rest, afterCFlag false (tokens.drop 1) = some (inner :: rest) ∧ inner ≠ "" ∧ c.innerCommand = some inner := by
  subst hc
  revert hd
  fun_cases shellClassify tokens with
  | case5 =>  -- a word after the `-c` cluster
    rename_i inner rest hcf hne
    exact fun _ => ⟨inner, rest, hcf, by rintro rfl; simp at hne, rfl⟩
  | _ => simp [ask]

/-- the words before the `-c` cluster are options of the shell (or values of its value-taking options): `skip` says
    whether the first word is such a value -/
def ShellOptions : Bool → List String → Prop
  | _, [] => True
  | true, _ :: rest => ShellOptions false rest
  | false, t :: rest => (sw t "-" = true ∨ sw t "+" = true) ∧ t ≠ "--" ∧ isCFlag t = false ∧ ShellOptions (shellTakesValue t) rest

/-- where the `-c` cluster is found: only option words of the shell precede it – never a script operand or `--` -/
theorem afterCFlag_position (b : Bool) (l rest : List String) (h : afterCFlag b l = some rest) :
    ∃ pre t, l = pre ++ t :: rest ∧ ShellOptions b pre ∧ (pre = [] → b = false) ∧ isCFlag t = true := by
  fun_induction afterCFlag b l with
  | case1 => cases h  -- no words left
  | case2 t _ ih =>  -- an option's value
    obtain ⟨pre, c, hl, hp, _, hcf⟩ := ih h
    exact ⟨t :: pre, c, by simp [hl], hp, by simp, hcf⟩
  | case3 t _ hcf =>  -- the `-c` cluster
    cases h
    exact ⟨[], t, rfl, trivial, fun _ => rfl, hcf⟩
  | case4 t =>  -- an option taking a value
    rename_i hcf htv ih
    obtain ⟨pre, c, hl, hp, _, hc⟩ := ih h
    have hdash := shellTakesValue_option t htv
    exact ⟨t :: pre, c, by simp [hl], ⟨hdash.1, hdash.2, by simpa using hcf, by simpa [htv] using hp⟩, by simp, hc⟩
  | case5 => cases h  -- `--` or an operand
  | case6 t =>  -- any other option
    rename_i hcf htv hstop ih
    obtain ⟨pre, c, hl, hp, _, hc⟩ := ih h
    simp only [Bool.or_eq_true, beq_iff_eq, Bool.not_eq_true', not_or, Bool.not_eq_false] at hstop
    exact ⟨t :: pre, c, by simp [hl], ⟨by simpa using hstop.2, hstop.1, by simpa using hcf, by simpa [htv] using hp⟩,
      by simp, hc⟩

/-- `bash x.sh -c ls` runs x.sh: a first word that is not an option ends the scan, nothing is delegated -/
theorem shell_script_operand_asks (prog w : String) (rest : List String)
    (hw : sw w "-" = false ∧ sw w "+" = false) : (shellClassify (prog :: w :: rest)).action = "ask" := by
  have hcf : isCFlag w = false := by simp [isCFlag, hw.1]
  have htv : shellTakesValue w = false := shellTakesValue_of_not_option w hw.1 hw.2
  simp [shellClassify, afterCFlag, hcf, htv, hw.1, hw.2, ask]

/-- specification of what `find` executes: one clause per `-exec`/`-execdir`, up to `;` or `+` -/
def execClauses : List String → List (List String)
  | [] => []
  | t :: rest =>
    if t == "-exec" || t == "-execdir" then rest.takeWhile (fun x => !isClauseEnd x) :: execClauses rest
    else execClauses rest

theorem findLoop_spec (base : String) (l : List String) (clauses : List String) (desc : Option String)
    (hno : ∀ t ∈ l, t ≠ "-ok" ∧ t ≠ "-okdir" ∧ t ≠ "-delete")
    (hne : ∀ cl ∈ execClauses l, cl ≠ []) :
    ∃ d, findLoop base l clauses desc =
      (if (clauses ++ (execClauses l).map bashJoin).isEmpty then allow (some base)
       else delegate (" ; ".intercalate (clauses ++ (execClauses l).map bashJoin)) d) := by
  fun_induction findLoop base l clauses desc with
  | case1 _ desc h | case2 _ desc h => exact ⟨desc, by simp [execClauses, h]⟩  -- no words left
  | case3 t | case4 t =>  -- excluded by `hno`
    have := hno t List.mem_cons_self
    simp_all
  | case5 =>  -- an empty clause: excluded by `hne`
    rename_i h inner hin
    exact absurd hin (hne inner (by simp [execClauses, h, inner]))
  | case6 t rest =>  -- `-exec` with its clause
    rename_i h inner first more hin ih
    have hcl : execClauses (t :: rest) = (first :: more) :: execClauses rest := by simp [execClauses, h, ← hin, inner]
    rw [hcl] at hne ⊢
    obtain ⟨d, hd⟩ := ih (fun x hx => hno x (List.mem_cons_of_mem _ hx)) (fun cl h => hne cl (List.mem_cons_of_mem _ h))
    exact ⟨d, by simpa [hin, List.append_assoc] using hd⟩
  | case7 t rest =>  -- any other word
    rename_i h ih
    have hcl : execClauses (t :: rest) = execClauses rest := by simp [execClauses, h]
    rw [hcl] at hne ⊢
    exact ih (fun x hx => hno x (List.mem_cons_of_mem _ hx)) hne

/-- find: every `-exec`/`-execdir` clause is part of the delegated text, in order, joined by `;` -/
theorem find_all_clauses (tokens : List String)
    (hno : ∀ t ∈ tokens, t ≠ "-ok" ∧ t ≠ "-okdir" ∧ t ≠ "-delete")
    (hne : ∀ cl ∈ execClauses tokens, cl ≠ [])
    (hsome : execClauses tokens ≠ []) :
    (findClassify tokens).action = "delegate" ∧
    (findClassify tokens).innerCommand = some (" ; ".intercalate ((execClauses tokens).map bashJoin)) := by
  obtain ⟨d, hd⟩ := findLoop_spec (tokens.headD "find") tokens [] none hno hne
  rw [findClassify, hd]
  simp [hsome, delegate]

example : execClauses ["find", ".", "-exec", "ls", "{}", ";", "-execdir", "rm", "{}", "+"]
    = [["ls", "{}"], ["rm", "{}"]] := by decide +kernel

/-! ### script and the shells: options the launcher itself reads -/

/-- script: the delegated text is the re-quoting of the words after the file operand, a non-empty proper suffix of the
    command line reached through option words the handler knows -/
theorem script_inner_suffix (tokens : List String) (hd : (scriptClassify tokens).action = "delegate") :
    ∃ seen file command, scriptSkip false (tokens.drop 1) [] = some (seen, file :: command) ∧ command ≠ [] ∧
      (file :: command) <:+ tokens.drop 1 ∧ (scriptClassify tokens).innerCommand = some (bashJoin command) := by
  revert hd
  fun_cases scriptClassify tokens with
  | case6 =>  -- a command after the file
    rename_i seen file command hne hs
    exact fun _ => ⟨seen, file, command, hs, by simpa using hne, scriptSkip_suffix _ _ _ _ _ hs, rfl⟩
  | _ => simp [ask, allow]

/-- script: an option word outside the handler's flag tables (util-linux's `-c COMMAND`, any long option) is never
    stepped over – the command asks whatever follows -/
theorem script_unknown_option_asks (prog t : String) (rest : List String)
    (ht : sw t "-" = true) (hdd : t ≠ "--") (hu : scriptOption t = none) :
    (scriptClassify (prog :: t :: rest)).action = "ask" := by
  simp only [scriptClassify, List.drop_succ_cons, List.drop_zero, scriptSkip, ht, hdd, hu, ask, beq_iff_eq, ↓reduceIte]
  split <;> rfl

example : scriptOption "-c" = none := by decide +kernel
example : (scriptClassify ["script", "-c", "rm x", "ls"]).action = "ask" := by decide +kernel
example : (scriptClassify ["script", "-qt", "5", "f", "ls"]).innerCommand = some "ls" := by decide +kernel
example : (scriptClassify ["script", "-q", "/dev/null", "ls", "-la"]).innerCommand = some "ls -la" := by decide +kernel
example : (shellClassify ["bash", "x.sh", "-c", "ls"]).action = "ask" := by decide +kernel
example : (shellClassify ["bash", "-eo", "pipefail", "-c", "ls"]).innerCommand = some "ls" := by decide +kernel
example : (shellClassify ["bash", "--rcfile", "-c", "-c", "ls"]).innerCommand = some "ls" := by decide +kernel
example : (shellClassify ["bash", "--", "-c", "ls"]).action = "ask" := by decide +kernel

/-! ### T0 obligation: the launchers are the ones this property covers -/

/-- the handler modules that can answer `delegate` (found by T0 in the source) are exactly the thirteen launchers the
    property lists and the check exercises; a new launcher breaks this until it is modelled or covered -/
theorem launchers_covered :
    Generated.delegatingModules = ["arch", "caffeinate", "docker", "env", "fd", "find", "fzf", "kubectl", "script", "shell", "tar", "uv", "xargs"]
      ∧ Generated.remoteModules = ["docker", "kubectl"] := by decide +kernel

end Dippy.C04
