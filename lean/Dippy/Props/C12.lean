/-
C12 — Same verdict for Claude Code, Gemini CLI and Cursor; envelopes conform.

In the model the verdict (`Result`) is computed by functions that do not take the mode as an
argument at all (`shellPath`, `mcpPath`); the mode only selects the route to the command text and the
envelope (`render`).  The theorems make that explicit.
-/
import Dippy.Lemmas.Hook
import Dippy.Generated.Hook

namespace Dippy.C12

/-- mode selection: an explicit flag or variable first, the shape of the input otherwise -/
theorem mode_precedence (env : HookEnv) (j : PJson) :
    hookMode env j = match env.explicitMode with
      | some m => some m
      | none => detectMode env j := rfl

/-- explicit selection prefers claude, then gemini, then cursor – flags and variables alike -/
theorem explicit_order (argv : List String) (environ : String → Option String) :
    explicitFromFlags argv environ =
      if argv.contains "--claude" || envFlag (environ "DIPPY_CLAUDE") then some .claude
      else if argv.contains "--gemini" || envFlag (environ "DIPPY_GEMINI") then some .gemini
      else if argv.contains "--cursor" || envFlag (environ "DIPPY_CURSOR") then some .cursor
      else none := rfl

example : explicitFromFlags ["--cursor", "--claude"] (fun _ => none) = some .claude := by decide +kernel
example : explicitFromFlags ["--cursor"] (fun k => if k == "DIPPY_GEMINI" then some "TRUE" else none) = some .gemini := by decide +kernel
example : explicitFromFlags [] (fun k => if k == "DIPPY_CURSOR" then some "0" else none) = none := by decide +kernel

/-- **the verdict never depends on the mode**: the decision and the reason text a host reads out of
    its envelope are those of the mode-free result -/
theorem verdict_mode_free (m₁ m₂ : Mode) (r : Result) :
    decisionOfOut (render m₁ r) = decisionOfOut (render m₂ r)
      ∧ reasonOfOut (render m₁ r) = reasonOfOut (render m₂ r) := by
  rw [decisionOf_render, decisionOf_render, reasonOf_render, reasonOf_render]
  exact ⟨rfl, rfl⟩

/-- a shell command reaches the same verdict through Cursor's input shape and through the
    Claude/Gemini shape: same command text, same permission mode, same event ⇒ same result -/
theorem shell_route_mode_free (env : HookEnv) (jc jt : PJson) (cfg : Config) (cwd : String) (p : Bool)
    (c : PJson) (tool : String) (ti : PJson) (m : Mode) (hm : m ≠ .cursor)
    (hc : jc.get "command" (.str "") = some c)
    (ht : jt.get "tool_name" (.str "") = some (.str tool)) (hti : jt.get "tool_input" (.obj []) = some ti)
    (hcmd : ti.get "command" (.str "") = some c)
    (hshell : env.shellToolNames.contains tool = true) (hnm : Py.startsWith tool "mcp__" = false)
    (hb : bypassOf env jc p = bypassOf env jt p) :
    route env .cursor jc cfg cwd p = route env m jt cfg cwd p := by
  have hrc : route env .cursor jc cfg cwd p = shellPath env jc cfg cwd p c := by
    simp only [route, hc]
  rw [hrc, route_tool hm ht hti, hnm, hshell, hcmd]
  show shellPath env jc cfg cwd p c = shellPath env jt cfg cwd p c
  unfold shellPath
  rw [hb]

/-- every Gemini tool-name alias is routed like `Bash` (T0 obligation on the two tables) -/
theorem gemini_aliases_are_shell_tools :
    Generated.geminiNames.all (fun n => Generated.shellToolNames.contains n) = true
      ∧ Generated.shellToolNames.contains "Bash" = true := by decide +kernel

/-! ### envelopes: exactly the fields and vocabulary each host expects -/

theorem envelope_claude (a : Action) (r : String) :
    envelope .claude a r = .obj [("hookSpecificOutput", .obj [("hookEventName", .str "PreToolUse"),
      ("permissionDecision", .str a.toString), ("permissionDecisionReason", .str ("🐤 " ++ r))])] := rfl

theorem envelope_gemini (a : Action) (r : String) :
    envelope .gemini a r = .obj [("decision", .str a.toString), ("reason", .str ("🐤 " ++ r))] := rfl

theorem envelope_cursor (a : Action) (r : String) :
    envelope .cursor a r = .obj [("permission", .str a.toString), ("user_message", .str ("🐤 " ++ r)),
      ("agent_message", .str ("🐤 " ++ r)), ("userMessage", .str ("🐤 " ++ r)), ("agentMessage", .str ("🐤 " ++ r))] := rfl

theorem vocabulary (a : Action) : a.toString = "allow" ∨ a.toString = "ask" ∨ a.toString = "deny" := by
  cases a <;> simp [Action.toString]

/-- every line the hook ever prints is `{}`, one of the three envelopes, or a feedback line -/
theorem output_is_envelope (m : Mode) (r : Result) :
    render m r = [.json (.obj [])] ∨ (∃ a s, render m r = [.json (envelope m a s)])
      ∨ render m r = [] ∨ ∃ t, render m r = [.text t] := by
  cases r with
  | defer => exact .inl rfl
  | silent => exact .inr (.inr (.inl rfl))
  | feedback msg =>
    simp only [render]
    cases Py.truthy msg with
    | none => exact .inr (.inr (.inl rfl))
    | some t => exact .inr (.inr (.inr ⟨_, rfl⟩))
  -- a verdict: its envelope
  | _ => exact .inr (.inl ⟨_, _, rfl⟩)

/-- an explicit Claude/Gemini mode given a Cursor-shaped input (no tool_name) never allows: `{}` -/
theorem mismatched_shape_defers (env : HookEnv) (j : PJson) (cfg : Config) (cwd : String) (p : Bool) (m : Mode)
    (hm : m ≠ .cursor) (ti : PJson)
    (ht : j.get "tool_name" (.str "") = some (.str "")) (hti : j.get "tool_input" (.obj []) = some ti)
    (hs : env.shellToolNames.contains "" = false) :
    route env m j cfg cwd p = some .defer := by
  rw [route_tool hm ht hti, hs]
  rfl

end Dippy.C12
