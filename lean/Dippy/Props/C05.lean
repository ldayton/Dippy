/-
C05 — Unknown or unparseable input defaults to ask.

The `World` is arbitrary except where a hypothesis says otherwise; the table obligations are about the *generated*
tables (T0) and are re-checked on every run.
-/
import Dippy.Generated.Tables
import Dippy.Generated.Missing
import Dippy.Lemmas.Walk
import Dippy.Lemmas.Strip
import Dippy.Lemmas.StrTable

namespace Dippy.C05

variable (w : World) (rec : Rec) (h : HelpTables)

/-- a program that is on no table and matches no rule is asked about, whatever its arguments –
    unless the command has the explicit help/version shape -/
theorem unknown_asks (n : Nat) (tokens : List String) (cwd : String) (rem : Bool)
    (hne : tokens.isEmpty = false)
    (hm : w.matchCommand tokens cwd rem = none)
    (hw : w.wrapper (tokens.headD "") = false)
    (hs : w.simpleSafe (tokens.headD "") = false)
    (hh : w.hasHandler (tokens.headD "") = false)
    (hv : isVersionOrHelp h.helpWords h.helpFlags2 h.helpFlagsLast tokens = false) :
    simpleCmd w rec h (n + 1) tokens cwd rem = ⟨.ask, w.description tokens⟩ := by
  rw [simpleCmd]
  simp only [hne, Bool.false_eq_true, ↓reduceIte, hm, hw, Bool.false_and]
  unfold builtinVerdict
  simp only [hs, Bool.false_eq_true, ↓reduceIte, hv, hh, Bool.false_and]

/-- the sole exception, spelled out -/
theorem help_shape (hw hf2 hfl : List String) (tokens : List String) :
    isVersionOrHelp hw hf2 hfl tokens = true ↔
      (tokens.length = 2 ∧ (hw.contains (tokens.getD 1 "") = true ∨ hf2.contains (tokens.getD 1 "") = true))
      ∨ (2 ≤ tokens.length ∧ tokens.length ≤ 4 ∧ hfl.contains (tokens.getLastD "") = true) := by
  fun_cases isVersionOrHelp hw hf2 hfl tokens with
  | case1 h1 =>  -- fewer than two words
    refine ⟨nofun, ?_⟩
    rintro (⟨hl, _⟩ | ⟨hl, _, _⟩) <;> omega
  | case2 _ h2 => exact ⟨fun _ => .inl ⟨h2.1, .inl h2.2⟩, fun _ => rfl⟩  -- two words, a help word
  | case3 _ _ h3 => exact ⟨fun _ => .inl ⟨h3.1, .inr h3.2⟩, fun _ => rfl⟩  -- two words, a help flag
  | case4 h1 =>  -- at most four, a help flag last
    rename_i h4
    exact ⟨fun _ => .inr ⟨by omega, h4.2, h4.1⟩, fun _ => rfl⟩
  | case5 =>  -- none of the tests
    rename_i h2 h3 h4
    refine ⟨nofun, ?_⟩
    rintro (⟨hl, hc | hc⟩ | ⟨_, hl, hc⟩)
    · exact absurd ⟨hl, hc⟩ h2
    · exact absurd ⟨hl, hc⟩ h3
    · exact absurd ⟨hc, hl⟩ h4

-- with the shipped tuples: `cmd help|version|--version|--help|-h`, or ≤ 4 words ending in `--help`/`-h`
example : isVersionOrHelp Generated.helpWords Generated.helpFlags2 Generated.helpFlagsLast ["frob", "--version"] = true
    ∧ isVersionOrHelp Generated.helpWords Generated.helpFlags2 Generated.helpFlagsLast ["frob", "a", "b", "-h"] = true
    ∧ isVersionOrHelp Generated.helpWords Generated.helpFlags2 Generated.helpFlagsLast ["frob", "a", "b", "c", "-h"] = false
    ∧ isVersionOrHelp Generated.helpWords Generated.helpFlags2 Generated.helpFlagsLast ["frob", "a", "--version"] = false
    ∧ isVersionOrHelp Generated.helpWords Generated.helpFlags2 Generated.helpFlagsLast ["frob"] = false := by decide +kernel

/-- never allow for an unknown program outside that shape -/
theorem unknown_never_allowed (n : Nat) (tokens : List String) (cwd : String) (rem : Bool)
    (hne : tokens.isEmpty = false)
    (hm : w.matchCommand tokens cwd rem = none)
    (hw : w.wrapper (tokens.headD "") = false)
    (hs : w.simpleSafe (tokens.headD "") = false)
    (hh : w.hasHandler (tokens.headD "") = false)
    (ha : (simpleCmd w rec h (n + 1) tokens cwd rem).action = .allow) :
    isVersionOrHelp h.helpWords h.helpFlags2 h.helpFlagsLast tokens = true := by
  cases hv : isVersionOrHelp h.helpWords h.helpFlags2 h.helpFlagsLast tokens with
  | true => rfl
  | false =>
    rw [unknown_asks w rec h n tokens cwd rem hne hm hw hs hh hv] at ha
    cases ha

/-! ### input Dippy cannot parse or does not recognise -/

theorem parse_error_asks (fuel : Nat) (s cwd msg : String) (rem : Bool)
    (hs : (stripCmd s).isEmpty = false) (hp : w.parse (stripCmd s) = .error msg) :
    analyzeStr w h (fuel + 1) s cwd rem = ⟨.ask, "parse error: " ++ msg⟩ := by
  simp [analyzeStr, hs, hp]

theorem empty_asks (fuel : Nat) (s cwd : String) (rem : Bool) (hs : (stripCmd s).isEmpty = true) :
    analyzeStr w h (fuel + 1) s cwd rem = ⟨.ask, "empty command"⟩ := by
  simp [analyzeStr, hs]

theorem no_nodes_asks (fuel : Nat) (s cwd : String) (rem : Bool)
    (hs : (stripCmd s).isEmpty = false) (hp : w.parse (stripCmd s) = .ok []) :
    analyzeStr w h (fuel + 1) s cwd rem = ⟨.ask, "empty command"⟩ := by
  simp [analyzeStr, hs, hp]

/-- a node kind the walk does not know -/
theorem unknown_kind_asks (k cwd : String) (rem : Bool) :
    aNode w rec h (.other k) cwd rem = ⟨.ask, "unrecognized construct: " ++ k⟩ := by
  simp [aNode]

/-- … anywhere in a tree makes the whole verdict at least ask -/
theorem unknown_kind_in_pipeline (k : String) (a b : List Node) (cwd : String) (rem : Bool) :
    Action.ask ≤ (aNode w rec h (.pipeline (a ++ .other k :: b)) cwd rem).action := by
  simp only [aNode]
  rw [rejoin_action, aNodes_eq_map]
  apply le_supList
  simp [acts, aNode]

/-! ### odd spellings of a program name stay unknown -/

/-- `_strip_quotes` returns the raw word, or the inside of one pair of surrounding quotes:
    if the stripped text is `n` the raw word is `n`, `"n"` or `'n'` – and for a plain `n`
    (no quote, backslash, `$`, `/` …) bash runs exactly `n` for each of the three -/
theorem name_spelling (raw : String) :
    stripQuotes raw = raw
    ∨ raw.toList = '"' :: (stripQuotes raw).toList ++ ['"']
    ∨ raw.toList = '\'' :: (stripQuotes raw).toList ++ ['\''] := by
  fun_cases stripQuotes raw with
  | case1 =>  -- `c`, the middle, `l`: a quote pair
    rename_i c rest hl l midRev hr hq
    have hrest : rest = midRev.reverse ++ [l] := by simpa using congrArg List.reverse hr
    rcases hq with ⟨rfl, rfl⟩ | ⟨rfl, rfl⟩
    · exact .inr (.inl (by simp [hl, hrest]))
    · exact .inr (.inr (by simp [hl, hrest]))
  | _ => exact .inl rfl

/-- a plain table name: letters, digits and `_ . + -` only -/
def plainName (s : String) : Bool :=
  !s.isEmpty && s.toList.all fun c => c.isAlphanum || c == '_' || c == '.' || c == '+' || c == '-'

/-- T0 obligation: every name on the three shipped tables is plain, so no quoted, escaped,
    path-qualified or expansion-derived spelling can *be* a table entry -/
theorem tables_plain :
    (Generated.simpleSafe ++ Generated.wrapperCommands ++ Generated.handlerCommands).all plainName = true := by
  -- evaluated on the bytes of the names (Lemmas/StrTable)
  have h : (Generated.simpleSafe ++ Generated.wrapperCommands ++ Generated.handlerCommands).all (fun s => !s.isEmpty &&
      s.toByteArray.data.toList.all
        (asciiByte fun c => c.isAlphanum || c == '_' || c == '.' || c == '+' || c == '-')) = true := by
    decide +kernel
  refine List.all_eq_true.mpr fun s hs => ?_
  have := List.all_eq_true.mp h s hs
  rw [Bool.and_eq_true] at this
  rw [plainName, Bool.and_eq_true]
  exact ⟨this.1, all_of_asciiBytes _ s this.2⟩

/-- program names that must never be always-safe: they execute their arguments or arbitrary code, or write, delete,
    copy or fetch files -/
def launchers : List String :=
  ["eval", "exec", "source", ".", "sh", "bash", "zsh", "dash", "ksh", "csh", "tcsh", "fish", "xargs", "env",
   "sudo", "doas", "su", "watch", "parallel", "script", "chroot", "nsenter", "unshare", "setsid", "nohup",
   "timeout", "nice", "time", "strace", "ltrace", "builtin", "ionice", "taskset", "stdbuf", "flock", "trap",
   "rm", "mv", "cp", "dd", "tee", "sed", "awk", "perl", "python", "python3", "ruby", "node", "php", "ssh",
   "scp", "rsync", "curl", "wget", "make", "git", "docker", "kubectl", "find", "fd"]

/-- T0 obligation: none of them is on the always-safe list -/
theorem no_launcher_in_simple_safe : launchers.all (fun l => !Generated.simpleSafe.contains l) = true :=
  disjoint_of_keys _ _ (by decide +kernel)

/-- T0 obligation: the help/version tuples are exactly the documented ones -/
theorem help_tuples :
    Generated.helpWords = ["help", "version"] ∧ Generated.helpFlags2 = ["--version", "--help", "-h"]
      ∧ Generated.helpFlagsLast = ["--help", "-h"] := by decide +kernel

/-- T0 obligation: the translator found every table where it expected it -/
theorem no_missing_tables : Generated.missingTables = [] := by decide +kernel

/-- T0: the command text loses only blanks, tabs and newlines at its ends – a leading form feed, NBSP or NEL is
    part of the program name for bash (`$'\\fls'`: command not found) and stays in the text that is parsed -/
theorem strip_is_bash_blank : Generated.Quoting.analyzeStripChars = " \t\n" := by decide +kernel

example : stripCmd "\x0cls" = "\x0cls" ∧ stripCmd " ls \n" = "ls" ∧ stripCmd "\t\u00a0ls" = "\u00a0ls" := by decide +kernel

/-- the predicate `strip` uses is membership in exactly these three characters -/
theorem strip_pred (c : Char) :
    (Generated.Quoting.analyzeStripChars.toList.contains c = true) ↔ (c = ' ' ∨ c = '\t' ∨ c = '\n') := by
  rw [strip_is_bash_blank]
  simp [List.contains_eq_mem]

/-- for every command text: the text that is parsed is the command without a prefix and a suffix that consist of blanks,
    tabs and newlines only – nothing inside the command is removed and no other character is ever dropped -/
theorem strip_removes_only_blanks (s : String) :
    ∃ pre suf, s.toList = pre ++ (stripCmd s).toList ++ suf ∧
      ∀ c ∈ pre ++ suf, c = ' ' ∨ c = '\t' ∨ c = '\n' := by
  obtain ⟨pre, suf, h1, h2, h3⟩ :=
    Py.stripL_split (fun c => Generated.Quoting.analyzeStripChars.toList.contains c) s.toList
  refine ⟨pre, suf, ?_, ?_⟩
  · simpa [stripCmd, Py.stripChars] using h1
  · intro c hc
    rcases List.mem_append.mp hc with hc | hc
    · exact (strip_pred c).mp (h2 c hc)
    · exact (strip_pred c).mp (h3 c hc)

/-- … and what is parsed neither begins nor ends with one of them (the parser never sees outer blanks) -/
theorem strip_ends_clean (s : String) (c : Char)
    (hc : (stripCmd s).toList.head? = some c ∨ (stripCmd s).toList.getLast? = some c) :
    c ≠ ' ' ∧ c ≠ '\t' ∧ c ≠ '\n' := by
  have hp : Generated.Quoting.analyzeStripChars.toList.contains c = false := by
    simp only [stripCmd, Py.stripChars, String.toList_ofList] at hc
    rcases hc with hc | hc
    · exact Py.stripL_head _ s.toList c hc
    · exact Py.stripL_last _ s.toList c hc
  -- `c` is none of the three: else it would be among the stripped characters
  have hn : ¬ (c = ' ' ∨ c = '\t' ∨ c = '\n') := fun h => by
    have := (strip_pred c).mpr h
    rw [hp] at this
    cases this
  exact ⟨fun h => hn (.inl h), fun h => hn (.inr (.inl h)), fun h => hn (.inr (.inr h))⟩

/-- stripping is idempotent: a nested `analyze` of an already stripped text (`bash -c`, wrappers) parses the same
    text -/
theorem strip_idem (s : String) : stripCmd (stripCmd s) = stripCmd s := by
  simp only [stripCmd, Py.stripChars, String.toList_ofList]
  rw [Py.stripL_idem]

/-- for every command, every world and every fuel: blanks, tabs and newlines put before and after the command text do
    not change the verdict or its reason – the analysis sees the command only through its stripped text -/
theorem analyze_padding_invariant (fuel : Nat) (s cwd : String) (rem : Bool) (pre suf : List Char)
    (h1 : ∀ c ∈ pre, c = ' ' ∨ c = '\t' ∨ c = '\n') (h2 : ∀ c ∈ suf, c = ' ' ∨ c = '\t' ∨ c = '\n') :
    analyzeStr w h fuel (String.ofList (pre ++ s.toList ++ suf)) cwd rem = analyzeStr w h fuel s cwd rem := by
  have hs : stripCmd (String.ofList (pre ++ s.toList ++ suf)) = stripCmd s := by
    simp only [stripCmd, Py.stripChars, String.toList_ofList]
    rw [Py.stripL_pad _ pre s.toList suf (fun c hc => (strip_pred c).mpr (h1 c hc))
      (fun c hc => (strip_pred c).mpr (h2 c hc))]
  cases fuel with
  | zero => rfl
  | succ n =>
    unfold analyzeStr
    rw [hs]

example : ∃ pre suf, " \tls -l\n".toList = pre ++ (stripCmd " \tls -l\n").toList ++ suf ∧ pre = [' ', '\t'] ∧ suf = ['\n'] :=
  ⟨[' ', '\t'], ['\n'], by decide +kernel, rfl, rfl⟩

end Dippy.C05
