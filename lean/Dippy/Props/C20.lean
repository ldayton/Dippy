/-
C20 — the statusline never crashes; its cache entry stays inside the cache directory and is never served
torn.  Every data source and the whole cache directory are oracles; the replacement protocol
`open(tmp.PID, "w"); write*; rename(tmp.PID, path)` runs under any interleaving of any number of invocations,
with a kill allowed between any two system calls, given distinct temporary names.
-/
import Dippy.Model.Statusline
import Dippy.Generated.Statusline

namespace Dippy.C20

open Dippy.SL

/-! ### confinement -/

theorem safeId_no_slash (s : List Char) : '/' ∉ safeId s := by
  unfold safeId
  split
  · decide +kernel  -- the empty id
  · intro h  -- every `/` replaced
    obtain ⟨c, -, hc⟩ := List.mem_map.mp h
    split at hc
    · exact absurd hc (by decide)
    · rename_i hne
      exact hne hc

theorem safeId_nonempty (s : List Char) : safeId s ≠ [] := by
  unfold safeId
  split
  · decide +kernel  -- the empty id
  · rename_i h  -- a non-empty id
    simpa using h

/-- the cache entry's name, for every session id string -/
theorem cache_confined (s : List Char) :
    '/' ∉ cacheName s ∧ cacheName s ≠ ".".toList ∧ cacheName s ≠ "..".toList
      ∧ (cacheName s).getLast? = some 'e' ∧ cacheName s ≠ mcpName := by
  have hlast : (cacheName s).getLast? = some 'e' := by
    unfold cacheName
    rw [List.getLast?_append]
    rfl
  refine ⟨fun h => ?_, ?_, ?_, hlast, ?_⟩
  · rcases List.mem_append.mp h with h | h
    · exact safeId_no_slash s h
    · revert h; decide +kernel
  -- `.`, `..` and `mcp.list` do not end in `e`
  all_goals intro h; rw [h] at hlast; revert hlast; decide +kernel

/-- a temporary name `<anything>.tmp.<pid>` ends in a digit, a cache entry in `e`: they never coincide -/
theorem entry_is_not_a_tmp (s base : List Char) (d : Char) (hd : d.isDigit = true) :
    cacheName s ≠ base ++ [d] := by
  intro h
  have hde : d = 'e' := by simpa [h] using (cache_confined s).2.2.2.1
  rw [hde] at hd
  revert hd; decide

/-- every session id shape: a string or falsy value names an entry inside the directory, a truthy
    non-string names none (the AttributeError is caught: nothing is read or written) -/
theorem cachePath_cases (sid : Sid) :
    (∃ s, cachePath sid = some (cacheName s)) ∨ cachePath sid = none := by
  cases sid with
  | str s => exact Or.inl ⟨s, rfl⟩
  | falsyOther => exact Or.inl ⟨[], rfl⟩
  | truthyOther => exact Or.inr rfl

theorem nonstring_id_no_cache (e : Env) : main e .truthyOther = build e := rfl

/-! ### output -/

theorem joinBar_nonempty (x : List Char) (xs : List (List Char)) (hx : x ≠ []) : joinBar (x :: xs) ≠ [] := by
  cases xs with
  | nil => exact hx
  | cons y ys => exact fun h => hx (List.append_eq_nil_iff.mp (List.append_eq_nil_iff.mp h).1).1

theorem build_nonempty (e : Env) (hm : e.model ≠ []) : build e ≠ [] := joinBar_nonempty _ _ hm

/-- whatever is in the cache directory and whichever sources fail: something is printed -/
theorem main_nonempty (e : Env) (sid : Sid) (hm : e.model ≠ []) : main e sid ≠ [] := by
  fun_cases main e sid with
  | case2 =>  -- a fresh entry: tested non-empty
    rename_i hc
    simp only [Bool.and_eq_true, Bool.not_eq_true', List.isEmpty_eq_false_iff] at hc
    exact hc.1
  | _ => exact build_nonempty e hm

theorem singleLine_append (a b : List Char) : singleLine (a ++ b) = (singleLine a && singleLine b) := by
  simp [singleLine, List.any_append, Bool.not_or]

theorem joinBar_single (xs : List (List Char)) (h : ∀ x ∈ xs, singleLine x = true) :
    singleLine (joinBar xs) = true := by
  fun_induction joinBar xs with
  | case1 => rfl  -- no part
  | case2 x => exact h x (List.mem_singleton_self x)  -- one part
  | case3 =>  -- part, separator, rest
    rename_i ih
    obtain ⟨hx, hxs⟩ := List.forall_mem_cons.mp h
    rw [singleLine_append, singleLine_append, hx, ih hxs]
    rfl

theorem build_single (e : Env) (hm : singleLine e.model = true)
    (hf : ∀ f ∈ e.fragments, ∀ t, f = some t → singleLine t = true) : singleLine (build e) = true := by
  refine joinBar_single _ (List.forall_mem_cons.mpr ⟨hm, fun x h => ?_⟩)
  obtain ⟨f, hfm, hfe⟩ := List.mem_filterMap.mp (List.mem_filter.mp h).1
  exact hf f hfm x hfe

/-- one line whenever the fragments are – for ANY content of the cache directory -/
theorem main_single_line (e : Env) (sid : Sid) (hm : singleLine e.model = true)
    (hf : ∀ f ∈ e.fragments, ∀ t, f = some t → singleLine t = true) : singleLine (main e sid) = true := by
  fun_cases main e sid with
  | case2 =>  -- a fresh entry: tested one line
    rename_i hc
    simp only [Bool.and_eq_true] at hc
    exact hc.2
  | _ => exact build_single e hm hf

theorem break_is_space (c : Char) (h : isBreak c = true) : Py.isSpace c = true := by
  unfold isBreak at h
  simp only [Bool.or_eq_true, decide_eq_true_eq] at h
  rcases h with h | h <;> subst h <;> decide +kernel

theorem splitWs_no_space (s cur : List Char) (hc : ∀ c ∈ cur, Py.isSpace c = false) :
    ∀ w ∈ splitWs s cur, ∀ c ∈ w, Py.isSpace c = false := by
  fun_induction splitWs s cur with
  | case1 => exact fun w hw => nomatch hw  -- end, no word open
  | case2 =>  -- end: the word is emitted
    exact List.forall_mem_singleton.mpr fun c h => hc c (List.mem_reverse.mp h)
  | case3 => rename_i ih; exact ih fun _ h => nomatch h  -- a blank, no word open
  | case4 =>  -- a blank ends the word
    rename_i ih
    exact List.forall_mem_cons.mpr ⟨fun c h => hc c (List.mem_reverse.mp h), ih fun _ h => nomatch h⟩
  | case5 =>  -- the word grows
    rename_i hns ih
    exact ih (List.forall_mem_cons.mpr ⟨by simpa using hns, hc⟩)

theorem joinSpaceL_single (ws : List (List Char)) (h : ∀ w ∈ ws, singleLine w = true) :
    singleLine (joinSpaceL ws) = true := by
  fun_induction joinSpaceL ws with
  | case1 => rfl  -- no part
  | case2 x => exact h x (List.mem_singleton_self x)  -- one part
  | case3 =>  -- part, separator, rest
    rename_i ih
    obtain ⟨hx, hxs⟩ := List.forall_mem_cons.mp h
    rw [singleLine_append, hx]
    -- `singleLine (' ' :: l)` computes to `singleLine l`
    exact ih hxs

/-- text taken from a file (MCP list, server names) is put on one line whatever the file holds -/
theorem collapse_single_line (s : List Char) : singleLine (collapse s) = true := by
  refine joinSpaceL_single (splitWs s []) fun w hw => ?_
  -- a word of `str.split()` holds no whitespace, and a line break is whitespace
  have hns := splitWs_no_space s [] (fun _ h => nomatch h) w hw
  simp only [singleLine, Bool.not_eq_true', List.any_eq_false]
  intro c hc hb
  exact Bool.false_ne_true ((hns c hc).symm.trans (break_is_space c hb))

/-! ### the entry is never torn -/

theorem flatLen_eq (l : List (List Char)) : flatLen l = l.flatten.length := List.length_flatten.symm

theorem writeAt_end (c chunk : List Char) : writeAt c c.length chunk = c ++ chunk := by
  simp [writeAt]

section protocol
variable (chunks : Nat → List (List Char)) (tmpName : Nat → Nat)

/-- the complete output of invocation `i` -/
def output (i : Nat) : List Char := (chunks i).flatten

/-- an open temporary holds the chunks written so far; the entry is what it was or somebody's complete output -/
def Inv (init : Option (List Char)) (w : SL.World) : Prop :=
  (∀ i k, w.stage i = .writing k → w.tmp (tmpName i) = some ((chunks i).take k).flatten)
  ∧ (w.final = init ∨ ∃ i, w.final = some (output chunks i))

theorem inv_init (init : Option (List Char)) : Inv chunks tmpName init (initWorld init) := by
  refine ⟨fun i k h => ?_, .inl rfl⟩
  cases h

/-- `hinj`: distinct temporary names keep the other processes' temporaries out of reach -/
theorem inv_update (hinj : ∀ i j, tmpName i = tmpName j → i = j) {init : Option (List Char)} {w : SL.World}
    (i : Nat) (hw : Inv chunks tmpName init w) (st : Stage) (t fin : Option (List Char))
    (hi : ∀ k, st = .writing k → t = some ((chunks i).take k).flatten)
    (hfin : fin = w.final ∨ fin = some (output chunks i)) :
    Inv chunks tmpName init
      { tmp := fun n => if n = tmpName i then t else w.tmp n, final := fin,
        stage := fun j => if j = i then st else w.stage j } := by
  refine ⟨fun j k hj => ?_, ?_⟩
  · by_cases hji : j = i
    · subst hji  -- process `i`
      simp only [↓reduceIte] at hj ⊢
      exact hi k hj
    · simp only [hji, ↓reduceIte] at hj  -- another process
      exact (if_neg fun h => hji (hinj j i h)).trans (hw.1 j k hj)
  · rcases hfin with h | h
    · rw [h]; exact hw.2
    · exact .inr ⟨i, h⟩

theorem inv_step (hinj : ∀ i j, tmpName i = tmpName j → i = j) (init : Option (List Char)) (w : SL.World) (ev : Ev)
    (hw : Inv chunks tmpName init w) : Inv chunks tmpName init (stepEv chunks tmpName w ev) := by
  cases ev with
  | «open» i =>
    show Inv chunks tmpName init (stepOpen tmpName w i)
    fun_cases stepOpen tmpName w i with
    | case1 =>  -- not started yet
      exact inv_update chunks tmpName hinj i hw _ _ _ (fun k hk => by cases hk; rfl) (.inl rfl)
    | case2 => exact hw  -- already started
  | write i =>
    show Inv chunks tmpName init (stepWrite chunks tmpName w i)
    fun_cases stepWrite chunks tmpName w i with
    | case1 =>  -- a chunk left, the temporary there
      rename_i k hs hk _ hc
      cases hc.symm.trans (hw.1 i k hs)
      refine inv_update chunks tmpName hinj i hw _ _ _ (fun k' hk' => ?_) (.inl rfl)
      cases hk'
      -- the writer's offset is the end of what it wrote so far
      rw [flatLen_eq, writeAt_end, List.take_succ_eq_append_getElem hk, List.flatten_concat]
    | case2 =>  -- the temporary gone: not under `Inv`
      rename_i k hs _ hc
      cases hc.symm.trans (hw.1 i k hs)
    | _ => exact hw
  | rename i =>
    show Inv chunks tmpName init (stepRename chunks tmpName w i)
    fun_cases stepRename chunks tmpName w i with
    | case1 c hc hs =>  -- all written, the temporary there
      cases hc.symm.trans (hw.1 i _ hs)
      rw [List.take_length]
      exact inv_update chunks tmpName hinj i hw _ _ _ (fun k' hk' => nomatch hk') (.inr rfl)
    | case2 hc hs =>  -- the temporary gone: not under `Inv`
      cases hc.symm.trans (hw.1 i _ hs)
    | _ => exact hw
  | kill i =>
    refine ⟨fun j k hj => ?_, hw.2⟩
    by_cases hji : j = i
    · subst hji  -- the killed process
      simp only [stepEv, stepKill, ↓reduceIte, reduceCtorEq] at hj
    · simp only [stepEv, stepKill, hji, ↓reduceIte] at hj  -- the others
      exact hw.1 j k hj

/-- under every schedule – any interleaving of any invocations' system calls, kills anywhere – the cache
    entry is what it was before, or the complete output of one invocation: never partial, never mixed.
    (Every prefix of a schedule is a schedule, so this holds at every moment a reader may look.) -/
theorem untorn (hinj : ∀ i j, tmpName i = tmpName j → i = j) (init : Option (List Char)) (evs : List Ev) :
    (runEvs chunks tmpName (initWorld init) evs).final = init
      ∨ ∃ i, (runEvs chunks tmpName (initWorld init) evs).final = some (output chunks i) := by
  suffices h : ∀ w, Inv chunks tmpName init w → Inv chunks tmpName init (runEvs chunks tmpName w evs) from
    (h _ (inv_init chunks tmpName init)).2
  induction evs with
  | nil => intro w hw; exact hw
  | cons ev evs ih => intro w hw; exact ih _ (inv_step chunks tmpName hinj init w ev hw)

end protocol

/-- the hypothesis is needed: with one temporary name per session (not per process) a short writer that
    opened first and writes after a longer one was published leaves a mixed entry -/
theorem shared_tmp_tears :
    let chunks : Nat → List (List Char) := fun i => if i = 0 then ["LONG-LINE".toList] else ["ab".toList]
    let w := runEvs chunks (fun _ => 0) (initWorld none) [.open 1, .open 0, .write 0, .rename 0, .write 1]
    w.final = some "abNG-LINE".toList ∧ w.final ≠ some (output chunks 0) ∧ w.final ≠ some (output chunks 1) := by
  decide +kernel

/-- non-vacuity: two invocations, distinct temporaries, one killed mid-write -/
example :
    let chunks : Nat → List (List Char) := fun i => if i = 0 then ["model ".toList, "| dir".toList] else ["other".toList]
    (runEvs chunks id (initWorld none) [.open 0, .write 0, .open 1, .write 1, .kill 0, .rename 1, .write 0]).final
      = some "other".toList := by decide +kernel

/-! ### T0 obligations: the source has the shape the model assumes -/

/-- names: `<id with / -> _>.cache`, `default`, `mcp.list`; protocol: a temporary named with the PID is opened,
    renamed onto the entry, and the entry itself is never opened for writing -/
theorem t0_statusline :
    Generated.SL.cacheSuffix.toList = ".cache".toList ∧ Generated.SL.defaultId.toList = safeId [] ∧ Generated.SL.slashReplace = "/->_"
      ∧ Generated.SL.mcpFile.toList = mcpName
      ∧ Generated.SL.tmpHasPid = true ∧ Generated.SL.opensTmp = true ∧ Generated.SL.renamesTmpToPath = true
      ∧ Generated.SL.writesFinalDirectly = false := ⟨rfl, rfl, rfl, rfl, rfl, rfl, rfl, rfl⟩

end Dippy.C20
