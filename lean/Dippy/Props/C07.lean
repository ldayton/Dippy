/-
C07 — User rules decide: last match wins, non-matching rules are inert.

`env` is any path environment (any file system), `cfg` any configuration, `w` any world whose rule
lookup is the configuration's engine.  `ruleHits` is the test `match_command` applies to one rule.
-/
import Dippy.Lemmas.LastMatch
import Dippy.Lemmas.GlobLit
import Dippy.Lemmas.Simple
import Dippy.Props.C03

namespace Dippy.C07

section lookup
variable (env : PathEnv)

/-- does command rule `r` match the command `ws` (under `cfg`'s aliases)? -/
def ruleHits (cfg : Config) (ws : List String) (cwd : String) (rem : Bool) (r : Rule) : Bool :=
  patternMatches env r.pattern r.exact (normalizedCmd env cfg ws cwd rem) cwd rem

/-- R3: the rule engine returns the last matching rule, for every rule list and command -/
theorem last_match_wins (cfg : Config) (ws : List String) (cwd : String) (rem : Bool) :
    matchCommand env cfg ws cwd rem
      = ((cfg.rules.filter (ruleHits env cfg ws cwd rem)).getLast?).map Rule.toMatch := by
  simp only [matchCommand, matchWords, lastMatch_eq]
  rfl

theorem no_match_iff (cfg : Config) (ws : List String) (cwd : String) (rem : Bool) :
    matchCommand env cfg ws cwd rem = none ↔ ∀ r ∈ cfg.rules, ruleHits env cfg ws cwd rem r = false := by
  unfold matchCommand matchWords
  rw [Option.map_eq_none_iff]
  exact lastMatch_none

/-- a non-matching rule is inert wherever it is inserted -/
theorem inert (cfg : Config) (a b : List Rule) (r : Rule) (ws : List String) (cwd : String) (rem : Bool)
    (hr : ruleHits env { cfg with rules := a ++ r :: b } ws cwd rem r = false) :
    matchCommand env { cfg with rules := a ++ r :: b } ws cwd rem
      = matchCommand env { cfg with rules := a ++ b } ws cwd rem := by
  -- the command string does not depend on the rule list: both sides are `lastMatch` with the same test
  show (lastMatch (ruleHits env cfg ws cwd rem) (a ++ r :: b)).map Rule.toMatch
    = (lastMatch (ruleHits env cfg ws cwd rem) (a ++ b)).map Rule.toMatch
  rw [lastMatch_inert (ruleHits env cfg ws cwd rem) a b r hr]

/-- a matching rule appended last overrides every earlier one, whatever they decide -/
theorem later_overrides (cfg : Config) (r : Rule) (ws : List String) (cwd : String) (rem : Bool)
    (hr : ruleHits env cfg ws cwd rem r = true) :
    matchCommand env { cfg with rules := cfg.rules ++ [r] } ws cwd rem = some r.toMatch := by
  show (lastMatch (ruleHits env cfg ws cwd rem) (cfg.rules ++ [r])).map Rule.toMatch = some r.toMatch
  rw [lastMatch_snoc, if_pos hr]
  rfl

/-! ### literal patterns: whole-word prefix, exact with the `|` anchor -/

/-- a literal (glob-free after normalisation), non-anchored pattern matches the command
    itself and every extension by further words, and nothing else -/
theorem literal_prefix (pattern cmd cwd : String) (rem : Bool)
    (hlit : Glob.hasGlobChars (if rem then pattern else normalizePattern env pattern cwd) = false) :
    patternMatches env pattern false cmd cwd rem
      = let np := if rem then pattern else normalizePattern env pattern cwd
        ((np.toList ++ [' ']).isPrefixOf cmd.toList || cmd == np) := by
  unfold patternMatches
  simp only [hlit, Bool.not_false, Bool.and_self, ↓reduceIte]
  rw [Glob.fnmatch_literal_prefix _ _ (Glob.literal_of_hasGlobChars hlit)]

/-- with the `|` anchor a literal pattern matches exactly the command -/
theorem literal_exact (pattern cmd cwd : String) (rem : Bool)
    (hlit : Glob.hasGlobChars (if rem then pattern else normalizePattern env pattern cwd) = false)
    (hne : Py.endsWith (if rem then pattern else normalizePattern env pattern cwd) " *" = false) :
    patternMatches env pattern true cmd cwd rem
      = (cmd.toList == (if rem then pattern else normalizePattern env pattern cwd).toList) := by
  unfold patternMatches
  simp only [Bool.not_true, Bool.false_and, Bool.false_eq_true, ↓reduceIte, hne, Bool.or_false]
  rw [Glob.fnmatch_literal_exact _ _ (Glob.literal_of_hasGlobChars hlit)]

/-- `rm` does not match `rmdir x`: the prefix needs the separating space -/
example : patternMatches ⟨"/h", lexResolve⟩ "rm" false "rmdir x" "/w" false = false := by decide +kernel
example : patternMatches ⟨"/h", lexResolve⟩ "rm" false "rm -rf x" "/w" false = true := by decide +kernel
example : patternMatches ⟨"/h", lexResolve⟩ "rm" true "rm -rf x" "/w" false = false := by decide +kernel

end lookup

/-! ### the rule decides the simple command -/

section verdict
variable (w : World) (rec : Rec) (h : HelpTables)

/-- a matching rule decides the verdict, whatever the built-in tables and handlers say -/
theorem rule_decides (n : Nat) (tokens : List String) (cwd : String) (rem : Bool) (m : Match)
    (hne : tokens.isEmpty = false)
    (hm : w.matchCommand tokens cwd rem = some m) :
    (simpleCmd w rec h (n + 1) tokens cwd rem).action = m.decision := by
  rw [simpleCmd_succ w rec h n tokens cwd rem hne, hm]
  cases hd : m.decision <;> simp [hd]

/-- … and a deny (or ask) carries the rule's message, or its pattern when it has none -/
theorem deny_message (n : Nat) (tokens : List String) (cwd : String) (rem : Bool) (m : Match)
    (hne : tokens.isEmpty = false)
    (hm : w.matchCommand tokens cwd rem = some m) (hd : m.decision ≠ .allow) :
    (simpleCmd w rec h (n + 1) tokens cwd rem).reason
      = tokens.headD "" ++ ": " ++ Py.orElse m.message m.pattern := by
  rw [simpleCmd_succ w rec h n tokens cwd rem hne, hm]
  cases hdd : m.decision <;> simp_all [matchMsg]

/-- when no rule matches, the verdict is the built-in one (it does not mention the rules) -/
theorem no_rule_builtin (n : Nat) (tokens : List String) (cwd : String) (rem : Bool)
    (hne : tokens.isEmpty = false)
    (hm : w.matchCommand tokens cwd rem = none)
    (hw : w.wrapper (tokens.headD "") = false) :
    simpleCmd w rec h (n + 1) tokens cwd rem
      = builtinVerdict w rec h.helpWords h.helpFlags2 h.helpFlagsLast tokens cwd rem := by
  rw [simpleCmd_succ w rec h n tokens cwd rem hne, hm]
  simp only [hw, Bool.false_and, Bool.false_eq_true, ↓reduceIte]

/-- an environment-assignment prefix hides nothing: the rules (and everything else) see exactly the
    words after the prefix – the command proper of `A=1 B=2 cmd …` is the simple command `cmd …`, judged as
    spelled and as bash reads it after quote removal (the stricter verdict) -/
theorem env_prefix_transparent (ws : List Word) (cwd : String) (rem : Bool)
    (hlt : (mkCmdCtx w ws).baseIdx < (mkCmdCtx w ws).words.length)
    (hb : ((mkCmdCtx w ws).base == "[" || (mkCmdCtx w ws).base == "test") = false) :
    C03.proper w rec h ws cwd rem
      = Action.sup (simpleCmd w rec h ((mkCmdCtx w ws).words.length + 1)
          ((mkCmdCtx w ws).words.drop (mkCmdCtx w ws).baseIdx) cwd rem).action
          (simpleCmd w rec h ((mkCmdCtx w ws).unquoted.length + 1)
          ((mkCmdCtx w ws).unquoted.drop (mkCmdCtx w ws).baseIdx) cwd rem).action := by
  unfold C03.proper
  have hne := List.isEmpty_eq_false_iff.2 (List.ne_nil_of_length_pos (Nat.zero_lt_of_lt hlt))
  simp only [hne, Bool.false_eq_true, ↓reduceIte, hb, ge_iff_le, Nat.not_le.mpr hlt]

/-- hence a rule matching the words after the prefix bounds the prefixed command from below (a deny rule denies
    it) … -/
theorem rule_bounds_env_prefix (ws : List Word) (cwd : String) (rem : Bool) (m : Match)
    (hlt : (mkCmdCtx w ws).baseIdx < (mkCmdCtx w ws).words.length)
    (hb : ((mkCmdCtx w ws).base == "[" || (mkCmdCtx w ws).base == "test") = false)
    (hm : w.matchCommand ((mkCmdCtx w ws).words.drop (mkCmdCtx w ws).baseIdx) cwd rem = some m) :
    m.decision ≤ C03.proper w rec h ws cwd rem := by
  rw [env_prefix_transparent w rec h ws cwd rem hlt hb]
  rw [rule_decides w rec h _ _ cwd rem m (drop_nonempty _ _ hlt) hm]
  exact Action.le_sup_left _ _

/-- … and a rule matching the words as bash reads them (after quote removal) bounds it as well: `r\m -rf x` does not
    slip past `deny rm -rf *` -/
theorem rule_on_unquoted_bounds (ws : List Word) (cwd : String) (rem : Bool) (m : Match)
    (hlt : (mkCmdCtx w ws).baseIdx < (mkCmdCtx w ws).words.length)
    (hb : ((mkCmdCtx w ws).base == "[" || (mkCmdCtx w ws).base == "test") = false)
    (hm : w.matchCommand ((mkCmdCtx w ws).unquoted.drop (mkCmdCtx w ws).baseIdx) cwd rem = some m) :
    m.decision ≤ C03.proper w rec h ws cwd rem := by
  rw [env_prefix_transparent w rec h ws cwd rem hlt hb]
  have hlen : (mkCmdCtx w ws).unquoted.length = (mkCmdCtx w ws).words.length := by
    simp [mkCmdCtx, mkCmdCtxS]
  rw [rule_decides w rec h _ _ cwd rem m (drop_nonempty _ _ (hlen ▸ hlt)) hm]
  exact Action.le_sup_right _ _

/-- when quote removal changes no word, the matching rule decides the prefixed command -/
theorem rule_through_env_prefix (ws : List Word) (cwd : String) (rem : Bool) (m : Match)
    (hlt : (mkCmdCtx w ws).baseIdx < (mkCmdCtx w ws).words.length)
    (hb : ((mkCmdCtx w ws).base == "[" || (mkCmdCtx w ws).base == "test") = false)
    (hq : (mkCmdCtx w ws).unquoted = (mkCmdCtx w ws).words)
    (hm : w.matchCommand ((mkCmdCtx w ws).words.drop (mkCmdCtx w ws).baseIdx) cwd rem = some m) :
    C03.proper w rec h ws cwd rem = m.decision := by
  rw [env_prefix_transparent w rec h ws cwd rem hlt hb, hq, Action.sup_idem]
  exact rule_decides w rec h _ _ cwd rem m (drop_nonempty _ _ hlt) hm

/-- a rule on the inner command decides the wrapped command -/
theorem rule_through_wrapper (n : Nat) (W : String) (rest inner : List String) (cwd : String) (rem : Bool)
    (m : Match)
    (hwr : w.wrapper W = true) (hr : rest.isEmpty = false)
    (hcv : (W == "command" && (rest.headD "" == "-v" || rest.headD "" == "-V")) = false)
    (hskip : skipWrapperArgs (w.wrapperArgFlags W) rest = inner) (hi : inner.isEmpty = false)
    (hm : w.matchCommand (W :: rest) cwd rem = none)
    (hmi : w.matchCommand inner cwd rem = some m) :
    (simpleCmd w rec h (n + 1 + 1) (W :: rest) cwd rem).action = m.decision := by
  rw [wrapper_transparent w rec h n W rest inner cwd rem hwr hr hcv hskip hi hm]
  exact rule_decides w rec h n inner cwd rem m hi hmi

end verdict

/-! ### quote removal: the words bash reads -/

/-- T0 facts: `_analyze_command` has the second pass, and `_remove_quotes` has the shape the model implements (which
    words are left alone, what a backslash escapes inside double quotes, the numeric escapes of `$'…'`) -/
theorem quote_removal_shape :
    Generated.Quoting.secondPassPresent = true
      ∧ Generated.Quoting.ownContextMarkers = ["ch == '`' or value[i:i + 2] in ('$(', '${', '<(', '>(')", "value[i] == '`' or value[i:i + 2] in ('$(', '${')"]
      ∧ Generated.Quoting.doubleQuoteEscapable = "$`\"\\\n"
      ∧ Generated.Quoting.ansiCNumericPattern = "([0-7]{1,3})|(?:x([0-9a-fA-F]{1,2})|u([0-9a-fA-F]{1,4})|U([0-9a-fA-F]{1,8}))" :=
  ⟨rfl, rfl, rfl, rfl⟩

/-- spellings whose quoting bash removes before it runs the word -/
theorem quote_removal_examples :
    removeQuotes "-\"exec\"" = "-exec" ∧ removeQuotes "\\-delete" = "-delete" ∧ removeQuotes "r\\m" = "rm"
      ∧ removeQuotes "$'\\x2ddel\\145te'" = "-delete" ∧ removeQuotes "'r'\"m\"" = "rm" ∧ removeQuotes "$'\\u002dexec'" = "-exec"
      ∧ removeQuotes "\"$(x)\"" = "$(x)" ∧ removeQuotes "it\\'s" = "it's"
      ∧ removeQuotes "\"echo \\`rm x\\`\"" = "echo `rm x`" ∧ removeQuotes "'a`b'\\$(" = "a`b$(" := by
  decide +kernel

/-- a word without quote characters, backslashes, `$`, backticks or `<` `>` is read as written -/
theorem rqLoop_plain (esc : List (Char × Char)) (cs acc : List Char) (f : Nat) (hf : cs.length < f)
    (hc : ∀ c ∈ cs, c ≠ '\\' ∧ c ≠ '\'' ∧ c ≠ '"' ∧ c ≠ '$' ∧ c ≠ '`' ∧ c ≠ '<' ∧ c ≠ '>') :
    rqLoop esc f .plain cs acc = some (acc.reverse ++ cs) := by
  induction cs generalizing acc f with
  | nil =>
    cases f with
    | zero => simp at hf
    | succ f => unfold rqLoop; simp
  | cons c rest ih =>
    cases f with
    | zero => simp at hf
    | succ f =>
      obtain ⟨h1, h2, h3, h4, h5, h6, h7⟩ := hc c (by simp)
      unfold rqLoop  -- not `simp only [rqLoop, …]`: that has all the equations of `rqLoop` generated here
      simp only [h1, h2, h3, h4, h5, h6, h7, false_and, or_self, ↓reduceIte]
      rw [ih (c :: acc) f (by simp at hf; omega) (fun x hx => hc x (by simp [hx]))]
      simp

end Dippy.C07
