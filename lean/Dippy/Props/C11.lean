/-
C11 — Config text: line-local, never fatal, round-trips.

The model's `parseConfig` is a total function (an exception escaping `parse_config` would be a
correspondence divergence, T1).  What it computes: every line on its own, a line that is no well-formed
directive the identity, a concatenation the second text on top of the first (= `_merge_configs` on the rule
lists, log and log-full; the aliases by T1 only; `default` is dead and no homomorphism), the quoted message
back for *every* message, and every well-formed rule line back as the rule written (`roundtrip_*`, instances
of `RT.roundtrip`; writer and well-formedness in Lemmas/RoundTrip.lean).
-/
import Dippy.Lemmas.Parse
import Dippy.Lemmas.RoundTrip

namespace Dippy.C11

section parse
variable (e : ParseEnv)

/-- each line is interpreted independently of its neighbours: the result is a fold of per-line
    results, and a line's result is a function of that line (and the parse environment) alone -/
theorem line_local (lines : List String) (c : Config) :
    parseLines e lines c = applyAll c (lines.map (parseLine e)) := parseLines_eq e lines c

/-- a malformed / blank / comment line is skipped with everything else kept -/
theorem bad_line_identity (a b : List String) (l : String) (c : Config) (h : parseLine e l = .skip) :
    parseLines e (a ++ l :: b) c = parseLines e (a ++ b) c := skip_line_identity e a b l c h

/-- the number of command rules a line adds does not depend on where it stands -/
theorem line_independent (a b a' b' : List String) (l : String) :
    (parseLines e (a ++ l :: b)).rules.length + (parseLines e (a' ++ b')).rules.length
      = (parseLines e (a' ++ l :: b')).rules.length + (parseLines e (a ++ b)).rules.length := by
  simp only [parseLines_eq, applyAll_rules, List.map_append, List.map_cons, List.filterMap_append,
    List.filterMap_cons, List.length_append]
  cases (parseLine e l).ruleOf <;> simp <;> omega

/-- parsing a concatenation = parsing the second text starting from the first's result -/
theorem parse_concat (a b : List String) (c : Config) :
    parseLines e (a ++ b) c = parseLines e b (parseLines e a c) := parseLines_append e a b c

/-- … which agrees with `_merge_configs` on every rule list, the log path and log-full -/
theorem parse_merge_hom (a b : List String) :
    let ab := parseLines e (a ++ b)
    let m := mergeConfigs (parseLines e a) (parseLines e b)
    ab.rules = m.rules ∧ ab.redirectRules = m.redirectRules ∧ ab.afterRules = m.afterRules
      ∧ ab.mcpRules = m.mcpRules ∧ ab.afterMcpRules = m.afterMcpRules
      ∧ ab.log = m.log ∧ ab.logFull = m.logFull := by
  simp only [parseLines_eq, mergeConfigs, applyAll_rules, applyAll_redirectRules, applyAll_afterRules,
    applyAll_mcpRules, applyAll_afterMcpRules, applyAll_log, applyAll_logFull, List.map_append,
    List.filterMap_append, List.any_append]
  refine ⟨by simp, by simp, by simp, by simp, by simp, ?_, ?_⟩
  · rw [List.getLast?_append, Option.or_assoc]
    cases ((List.map (parseLine e) b).filterMap LineResult.logOf).getLast? <;> rfl
  · cases (List.map (parseLine e) a).any LineResult.isLogFull <;>
      cases (List.map (parseLine e) b).any LineResult.isLogFull <;> rfl

/-- `default` is the one field for which `_merge_configs` is *not* the concatenation (it is dead
    code: nothing reads `Config.default` – assumed, see `ASSUMES` in harness/props/c10.py) -/
theorem default_not_hom :
    let e : ParseEnv := ⟨"/h", fun _ => none⟩
    (parseLines e (["set default allow"] ++ ["set default ask"])).default
      ≠ (mergeConfigs (parseLines e ["set default allow"]) (parseLines e ["set default ask"])).default := by
  decide +kernel

/-! ### the quoted message round-trips -/

theorem unescape_escape (m : List Char) : unescapeL (escapeL m) = m := Dippy.unescape_escape m

/-- `_extract_message` reads back what a writer writes: every message over all characters
    (quotes, backslashes, `#`, `|`, non-ASCII …) and every non-empty pattern without trailing whitespace -/
theorem extract_render (p m : List Char) (hp : p ≠ []) (hps : Py.rstripL Py.isSpace p = p) :
    extractMessage (String.ofList (p ++ [' ', '"'] ++ escapeL m ++ ['"']))
      = .ok (String.ofList p) (some (String.ofList m)) := Dippy.extract_render p m hp hps

/-- non-vacuity: a message full of quotes and backslashes -/
example : extractMessage "rm -rf * \"say \\\"no\\\" \\\\ ok\"" = .ok "rm -rf *" (some "say \"no\" \\ ok") := by
  decide +kernel

example : parseLine ⟨"/h", fun _ => none⟩ "allow-redirect ~/out/**" = .redirect { decision := .allow, pattern := "/h/out/**" } := by
  decide +kernel

/-! ### whole rules round-trip

The writer `RT.renderLine` and the well-formedness `RT.WfPat` of a pattern are in Lemmas/RoundTrip.lean; the message
is arbitrary (any characters, including quotes, backslashes, `#`, `|`, non-ASCII). -/

open RT

/-- the writer's line is parsed back into the directive word and the body -/
theorem line_splits (d : String) (hd : Tok d.toList)
    (ts : List (List Char)) (ex : Bool) (m : Option (List Char)) (h : WfPat ts ex m) :
    Py.strip (renderLine d ts ex m) = renderLine d ts ex m
      ∧ Py.split1 (renderLine d ts ex m) = [d, String.ofList (joinL ts ++ anchorPart ex ++ msgPart m)] := by
  have hb := body_solid ts ex m h.ne h.toks
  unfold renderLine
  exact ⟨(line_solid hd hb).strip, by rw [split1_line hd hb, String.ofList_toList]⟩

/-- **`ask` / `deny` rules round-trip**: every well-formed pattern, exact or not, with or without a
    message, is read back as the rule that was written (tilde tokens expanded, as at parse time) -/
theorem roundtrip_ask (ts : List (List Char)) (ex : Bool) (m : Option (List Char)) (h : WfPat ts ex m) :
    parseLine e (renderLine "ask" ts ex m)
      = .rule { decision := .ask, pattern := Py.joinSpace ((ts.map String.ofList).map (expandHomeOnly e.pathEnv)),
                message := m.map String.ofList, exact := ex } :=
  (roundtrip_word e .ask ts ex m h nofun).trans (cmdRule_body _ .ask ts ex m h _)

theorem roundtrip_deny (ts : List (List Char)) (ex : Bool) (m : Option (List Char)) (h : WfPat ts ex m) :
    parseLine e (renderLine "deny" ts ex m)
      = .rule { decision := .deny, pattern := Py.joinSpace ((ts.map String.ofList).map (expandHomeOnly e.pathEnv)),
                message := m.map String.ofList, exact := ex } :=
  (roundtrip_word e .deny ts ex m h nofun).trans (cmdRule_body _ .deny ts ex m h _)

/-- `allow` rules (no message) -/
theorem roundtrip_allow (ts : List (List Char)) (ex : Bool) (h : WfPat ts ex none) :
    parseLine e (renderLine "allow" ts ex none)
      = .rule { decision := .allow, pattern := Py.joinSpace ((ts.map String.ofList).map (expandHomeOnly e.pathEnv)),
                exact := ex } :=
  (roundtrip_word e .allow ts ex none h (fun _ => rfl)).trans (cmdRule_body _ .allow ts ex none h none)

/-- redirect rules: the pattern is the whole text before the message (no anchor syntax) -/
theorem roundtrip_allow_redirect (ts : List (List Char)) (h : WfPat ts false none) :
    parseLine e (renderLine "allow-redirect" ts false none)
      = .redirect { decision := .allow, pattern := Py.joinSpace ((ts.map String.ofList).map (expandHomeOnly e.pathEnv)) } :=
  (roundtrip_plain e .allowRedirect ts none h (fun _ => rfl)).trans (redirRule_body _ .allow ts h.toks none)

theorem roundtrip_ask_redirect (ts : List (List Char)) (m : Option (List Char)) (h : WfPat ts false m) :
    parseLine e (renderLine "ask-redirect" ts false m)
      = .redirect { decision := .ask, pattern := Py.joinSpace ((ts.map String.ofList).map (expandHomeOnly e.pathEnv)),
                    message := m.map String.ofList } :=
  (roundtrip_plain e .askRedirect ts m h nofun).trans (redirRule_body _ .ask ts h.toks _)

theorem roundtrip_deny_redirect (ts : List (List Char)) (m : Option (List Char)) (h : WfPat ts false m) :
    parseLine e (renderLine "deny-redirect" ts false m)
      = .redirect { decision := .deny, pattern := Py.joinSpace ((ts.map String.ofList).map (expandHomeOnly e.pathEnv)),
                    message := m.map String.ofList } :=
  (roundtrip_plain e .denyRedirect ts m h nofun).trans (redirRule_body _ .deny ts h.toks _)

/-- `after` rules: the pattern text is kept as written -/
theorem roundtrip_after (ts : List (List Char)) (m : Option (List Char)) (h : WfPat ts false m) :
    parseLine e (renderLine "after" ts false m)
      = .after { pattern := String.ofList (joinL ts), message := m.map String.ofList } :=
  roundtrip_plain e .after ts m h nofun

/-- the MCP family -/
theorem roundtrip_allow_mcp (ts : List (List Char)) (h : WfPat ts false none) :
    parseLine e (renderLine "allow-mcp" ts false none)
      = .mcp { decision := .allow, pattern := String.ofList (joinL ts) } :=
  roundtrip_plain e .allowMcp ts none h (fun _ => rfl)

theorem roundtrip_ask_mcp (ts : List (List Char)) (m : Option (List Char)) (h : WfPat ts false m) :
    parseLine e (renderLine "ask-mcp" ts false m)
      = .mcp { decision := .ask, pattern := String.ofList (joinL ts), message := m.map String.ofList } :=
  roundtrip_plain e .askMcp ts m h nofun

theorem roundtrip_deny_mcp (ts : List (List Char)) (m : Option (List Char)) (h : WfPat ts false m) :
    parseLine e (renderLine "deny-mcp" ts false m)
      = .mcp { decision := .deny, pattern := String.ofList (joinL ts), message := m.map String.ofList } :=
  roundtrip_plain e .denyMcp ts m h nofun

theorem roundtrip_after_mcp (ts : List (List Char)) (m : Option (List Char)) (h : WfPat ts false m) :
    parseLine e (renderLine "after-mcp" ts false m)
      = .afterMcp { pattern := String.ofList (joinL ts), message := m.map String.ofList } :=
  roundtrip_plain e .afterMcp ts m h nofun

/-- when no token starts with `~` (nothing to expand), the pattern read back is
    character for character the pattern written -/
theorem pattern_unchanged (ts : List (List Char))
    (hno : ∀ t ∈ ts, Py.startsWith (String.ofList t) "~" = false) :
    Py.joinSpace ((ts.map String.ofList).map (expandHomeOnly e.pathEnv)) = String.ofList (joinL ts) := by
  have hid : ∀ s ∈ ts.map String.ofList, expandHomeOnly e.pathEnv s = s := fun s hs => by
    obtain ⟨t, ht, rfl⟩ := List.mem_map.mp hs
    exact expandHomeOnly_id _ _ (hno t ht)
  rw [List.map_congr_left hid, List.map_id', joinSpace_ofList]

/-- so a `deny` rule without tilde tokens survives write-then-parse unchanged, whatever its message -/
theorem roundtrip_deny_unchanged (ts : List (List Char)) (ex : Bool) (m : Option (List Char)) (h : WfPat ts ex m)
    (hno : ∀ t ∈ ts, Py.startsWith (String.ofList t) "~" = false) :
    parseLine e (renderLine "deny" ts ex m)
      = .rule { decision := .deny, pattern := String.ofList (joinL ts), message := m.map String.ofList, exact := ex } := by
  rw [roundtrip_deny e ts ex m h, pattern_unchanged e ts hno]

-- a whole rule line, parsed back (an instance of `roundtrip_deny_unchanged`)
example :
    parseLine ⟨"/h", fun _ => none⟩ "deny rm -rf * | \"use \\\"trash\\\"\""
      = .rule { decision := .deny, pattern := "rm -rf *", message := some "use \"trash\"", exact := true } := by
  decide +kernel

/-- non-vacuity: a well-formed pattern with glob characters, an anchor and a message full of
    quotes, backslashes, `#` and `|` -/
example : WfPat ["rm".toList, "-rf".toList, "*".toList] true (some "say \"no\" \\ # | ok".toList) :=
  wfPatB_sound _ _ _ (by decide +kernel)

end parse

-- malformed lines are `skip`
example : parseLine ⟨"/h", fun _ => none⟩ "deny \"message only\"" = .skip := by decide +kernel
example : parseLine ⟨"/h", fun _ => none⟩ "bogus directive" = .skip := by decide +kernel
example : parseLine ⟨"/h", fun _ => none⟩ "set log ~nosuchuser/x" = .skip := by decide +kernel

/-! ### indentation and trailing blanks of a line carry no meaning -/

/-- two lines with the same stripped form mean the same -/
theorem line_congr (e : ParseEnv) (a b : String) (h : Py.strip a = Py.strip b) : parseLine e a = parseLine e b := by
  -- `unfold parseLine` runs out of heartbeats; `delta` does not
  delta parseLine
  rw [h]

/-- a line means what its stripped form means -/
theorem line_strip_invariant (e : ParseEnv) (raw : String) : parseLine e (Py.strip raw) = parseLine e raw :=
  line_congr e _ _ (Py.strip_idem raw)

/-- for every line, every indentation and every run of trailing white space (any characters Python's `strip()` removes):
    the padded line is read exactly as the line itself – a rule cannot be changed, disabled or created by white space
    around it -/
theorem line_padding_invariant (e : ParseEnv) (raw : String) (pre suf : List Char)
    (h1 : ∀ c ∈ pre, Py.isSpace c = true) (h2 : ∀ c ∈ suf, Py.isSpace c = true) :
    parseLine e (String.ofList (pre ++ raw.toList ++ suf)) = parseLine e raw :=
  line_congr e _ _ (Py.strip_pad pre suf raw h1 h2)

/-- … and so a whole text whose lines are padded reads as the unpadded text -/
theorem text_padding_invariant (e : ParseEnv) (lines : List String) (pad : String → List Char × List Char)
    (hp : ∀ l, (∀ c ∈ (pad l).1, Py.isSpace c = true) ∧ (∀ c ∈ (pad l).2, Py.isSpace c = true)) (c : Config) :
    parseLines e (lines.map fun l => String.ofList ((pad l).1 ++ l.toList ++ (pad l).2)) c = parseLines e lines c := by
  rw [parseLines_eq, parseLines_eq, List.map_map]
  refine congrArg (applyAll c) (List.map_congr_left fun l _ => ?_)
  rw [Function.comp_apply]
  exact line_padding_invariant e l _ _ (hp l).1 (hp l).2

/-- a line of white space only – whatever the characters, however many – is skipped: it is the identity on the
    configuration (with `bad_line_identity`) -/
theorem blank_line_skip (e : ParseEnv) (raw : String) (h : ∀ c ∈ raw.toList, Py.isSpace c = true) :
    parseLine e raw = .skip := by
  have hs : Py.strip raw = Py.strip "" := by
    simp only [Py.strip]
    rw [Py.stripL_all _ _ h]
    rfl
  have he : parseLine e "" = .skip := by
    delta parseLine
    rfl
  rw [line_congr e raw "" hs, he]

example : parseLine ⟨"/h", fun _ => none⟩ "  \tdeny rm -rf * \"no\"  " = parseLine ⟨"/h", fun _ => none⟩ "deny rm -rf * \"no\"" ∧
    parseLine ⟨"/h", fun _ => none⟩ "deny rm -rf * \"no\"" ≠ .skip := by
  decide +kernel

end Dippy.C11
