/-
C09 — Path rules follow the file, not its spelling.

`denote env cwd s` is the specification: the file a path spelling denotes (tilde, relative to cwd,
then the file system's resolution of the joined path).  `PathEnv.resolve` is an arbitrary function
(any symlink structure); the lexical theorems instantiate it with the symlink-free `lexResolve`.
-/
import Dippy.Lemmas.PathLex
import Dippy.Lemmas.GlobStar
import Dippy.Lemmas.LastMatch

namespace Dippy.C09

/-- the file a spelling denotes -/
def denote (env : PathEnv) (cwd s : String) : String :=
  if Py.startsWith s "/" then env.resolve (purePath s)
  else if s == "~" || Py.startsWith s "~/" then env.resolve (purePath (expandHome env s))
  else env.resolve (pathJoin cwd s)

/-- spellings of a redirect target whose denotation is defined by the path alone (not `$VAR`, `~user`); a target that
    looks like a URL is a path like any other -/
def pathSpelling (s : String) : Prop :=
  classifyToken s true = .absolute ∨ classifyToken s true = .home ∨ classifyToken s true = .relative ∨ classifyToken s true = .bare

theorem classifyToken_path (t : String) (isPath : Bool) :
    match classifyToken t isPath with
    | .absolute => Py.startsWith t "/" = true
    | .home => Py.startsWith t "/" = false ∧ (t == "~" || Py.startsWith t "~/") = true
    | .relative | .bare => Py.startsWith t "/" = false ∧ (t == "~" || Py.startsWith t "~/") = false
    | _ => True := by
  fun_cases classifyToken t isPath <;> simp [*]

theorem expandToken_denotes (env : PathEnv) (cwd t : String) (isPath : Bool)
    (ht : classifyToken t isPath = .absolute ∨ classifyToken t isPath = .home ∨ classifyToken t isPath = .relative
      ∨ (isPath = true ∧ classifyToken t isPath = .bare)) :
    expandToken env t cwd isPath = denote env cwd t := by
  have := classifyToken_path t isPath
  unfold expandToken denote resolveAbs
  -- in each case `this` answers the two tests `denote` makes
  rcases ht with h | h | h | ⟨rfl, h⟩ <;> rw [h] at this ⊢ <;> simp [this]

/-- a redirect target is normalised to the file it denotes (after dropping trailing slashes) -/
theorem normalizePath_denotes (env : PathEnv) (cwd s : String)
    (hs : pathSpelling (Py.rstripChars s ['/'])) :
    normalizePath env s cwd = denote env cwd (Py.rstripChars s ['/']) :=
  expandToken_denotes env cwd _ true (by simpa [pathSpelling] using hs)

/-- **spelling invariance**: two spellings of the same file get the same redirect-rule verdict,
    for every rule set, cwd and file system -/
theorem spelling_invariant (env : PathEnv) (cfg : Config) (cwd s₁ s₂ : String)
    (h₁ : pathSpelling (Py.rstripChars s₁ ['/'])) (h₂ : pathSpelling (Py.rstripChars s₂ ['/']))
    (hd : denote env cwd (Py.rstripChars s₁ ['/']) = denote env cwd (Py.rstripChars s₂ ['/'])) :
    matchRedirect env cfg s₁ cwd = matchRedirect env cfg s₂ cwd := by
  unfold matchRedirect redirectRuleMatches
  rw [normalizePath_denotes env cwd s₁ h₁, normalizePath_denotes env cwd s₂ h₂, hd]

/-- the same for path arguments of command rules: each word is normalised to what it denotes -/
theorem command_word_denotes (env : PathEnv) (cwd w : String)
    (hw : classifyToken w = .absolute ∨ classifyToken w = .home ∨ classifyToken w = .relative) :
    expandToken env w cwd false = denote env cwd w :=
  expandToken_denotes env cwd w false (by simpa using hw)

/-! ### lexically equivalent spellings denote the same file (symlink-free resolution) -/

theorem detour (d x rest : List Char) (hx : normalSeg x) (hs : '/' ∉ x) :
    lexResolve (String.ofList (d ++ '/' :: x ++ '/' :: '.' :: '.' :: '/' :: rest))
      = lexResolve (String.ofList (d ++ '/' :: rest)) := by
  have := lexResolve_cut d (x ++ '/' :: ['.', '.']) rest fun acc => by
    simp [lexStack_slash, lexStack_noslash, hs, lexStep_normal _ x hx, lexStep_dotdot]
  simpa using this

theorem dot_segment (d rest : List Char) :
    lexResolve (String.ofList (d ++ '/' :: '.' :: '/' :: rest)) = lexResolve (String.ofList (d ++ '/' :: rest)) :=
  lexResolve_cut d ['.'] rest fun acc => by simp [lexStack_noslash, lexStep_dot]

theorem repeated_slash (d rest : List Char) :
    lexResolve (String.ofList (d ++ '/' :: '/' :: rest)) = lexResolve (String.ofList (d ++ '/' :: rest)) :=
  lexResolve_cut d [] rest fun acc => by simp [lexStack_noslash, lexStep_empty]

theorem trailing_slash (d : List Char) :
    lexResolve (String.ofList (d ++ ['/'])) = lexResolve (String.ofList d) := by
  rw [lexResolve_eq_stack, lexResolve_eq_stack, lexStack_slash, lexStack_noslash [] (by simp), lexStep_empty]

-- instances through the whole rule engine: every spelling of /tmp/probe/out gets the same answer,
-- and a detour out of the granted directory is *not* granted
example :
    let env : PathEnv := ⟨"/home/u", lexResolve⟩
    let cfg : Config := { redirectRules := [{ decision := .allow, pattern := "/tmp/probe/**" }] }
    (["out", "./out", "sub/../out", "/tmp/probe/out", "/tmp//probe/./out", "/tmp/probe/out/", "../probe/out"].map
        fun s => (matchRedirect env cfg s "/tmp/probe").map (·.decision))
      = List.replicate 7 (some Action.allow)
    ∧ (matchRedirect env cfg "/tmp/probe/../etc/passwd" "/tmp/probe") = none
    ∧ (matchRedirect env cfg "../../etc/passwd" "/tmp/probe") = none := by decide +kernel

/-! ### an allow-redirect for a directory cannot be used to write outside it -/

/-- if the last matching redirect rule is `D/**` (D an absolute, glob-free directory) then the
    *file the target denotes* lies under `D/` -/
theorem confined (env : PathEnv) (cfg : Config) (cwd s D : String) (m : Match)
    (hs : pathSpelling (Py.rstripChars s ['/']))
    (hm : matchRedirect env cfg s cwd = some m) (hp : m.pattern = D ++ "/**")
    (hD : Glob.literal D.toList)
    (hnorm : normalizeRedirectPattern env (D ++ "/**") cwd = D ++ "/**") :
    (D.toList ++ ['/']).isPrefixOf (denote env cwd (Py.rstripChars s ['/'])).toList = true := by
  unfold matchRedirect at hm
  simp only [Option.map_eq_some_iff] at hm
  obtain ⟨r, hr, hrm⟩ := hm
  obtain ⟨_, hhit⟩ := lastMatch_some hr
  have hpat : r.pattern = D ++ "/**" := by rw [← hp, ← hrm]; rfl
  unfold redirectRuleMatches globMatchB at hhit
  rw [hpat, hnorm, normalizePath_denotes env cwd s hs] at hhit
  have hg : Glob.globMatch (denote env cwd (Py.rstripChars s ['/'])) (D ++ "/**") = some true := by
    simpa [Option.getD_eq_iff] using hhit
  exact Glob.globMatch_literal_prefix _ (D ++ "/**") _ ['*', '*'] (by simp) (Glob.literal_snoc hD (by decide)) hg

/-! ### inside `**` patterns `*` and `?` never match a path separator -/

theorem star_no_slash (endOk : List Char → Bool) (ps : List Glob.Tok) (s : List Char)
    (h : Glob.matchToks endOk (.starNoSlash :: ps) s = true) :
    ∃ k, (∀ c ∈ s.take k, c ≠ '/') ∧ Glob.matchToks endOk ps (s.drop k) = true :=
  Glob.star_no_slash endOk ps s h

theorem question_no_slash (endOk : List Char → Bool) (ps : List Glob.Tok) (s : List Char)
    (h : Glob.matchToks endOk (.one .notSlash :: ps) s = true) :
    ∃ c t, s = c :: t ∧ c ≠ '/' ∧ Glob.matchToks endOk ps t = true := by
  cases s with
  | nil => simp [Glob.matchToks] at h
  | cons c t =>
    simp only [Glob.matchToks, Glob.CharM.test, Bool.and_eq_true] at h
    exact ⟨c, t, rfl, by simpa using h.1, h.2⟩

-- a grant for one directory level does not extend to deeper levels
example : Glob.globMatch "/srv/a/x" "/srv/*/**" = some true
    ∧ Glob.globMatch "/srv/a/b/x" "/srv/*/x**" = some false
    ∧ Glob.globMatch "/srv/ab/x" "/srv/a?/**" = some true
    ∧ Glob.globMatch "/srv/a//x" "/srv/a?/x**" = some false := by decide +kernel

end Dippy.C09
