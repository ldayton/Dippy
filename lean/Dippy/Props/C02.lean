/-
C02 — No unapproved file writes: approved commands modify only granted files.

Model side: every redirection of every node in every evaluated position is an atom
(`reach_atoms`); an approved tree has only allow decisions there (`reach_allowed`); so each write
redirection is granted by the last matching redirect rule, evaluated on the file the target denotes
(C09).  Which operators write and which targets are non-file sinks is an independent table here,
checked against the tables generated from the source.  Which directory bash is in when it opens the
file, and what the tools really write, is T2 (real bash + real coreutils in a jail).
-/
import Dippy.Lemmas.Reach
import Dippy.Lemmas.LastMatch
import Dippy.Lemmas.Simple
import Dippy.Generated.Tables

namespace Dippy.C02

variable (w : World) (rec : Rec) (h : HelpTables)

/-- **redirections**: in an approved tree, every reachable redirection whose operator writes and whose
    target is neither a non-file sink nor (spelled with a bare `&`) a descriptor is granted by a redirect rule
    whose decision is allow – and its spelling carries no quote or backslash that bash would still remove
    (`/tmp/out/".."/x` is never matched as spelled) -/
theorem write_redirect_granted (n : Node) (cwd cwd' : String) (op : String) (t : Word)
    (ha : (aNode w rec h n cwd false).action = .allow)
    (hr : Reach w.resolveCd w.arithWalked false (.node n, cwd) (.redir (.redirect op (some t)), cwd'))
    (hop : w.redirectOp (stripFd op) = true)
    (hsink : (w.safeTarget (wordValue t) && wordValue t != "-") = false)
    (hamp : Py.startsWith t.value "&" = false) :
    hasInnerQuoting (wordValue t) = false
      ∧ ∃ m, w.matchRedirect (wordValue t) cwd' = some m ∧ m.decision = .allow := by
  have hall := reach_allowed w rec h n cwd false ha hr (.redir op (wordValue t) cwd') (by
    simp only [Piece.atoms]
    rw [flatRedirects_single]
    simp [hamp])
  exact redirectDecision_allow w cwd' hall hop hsink

/-- with a configuration as the rule engine, the match is the *last* redirect rule matching the denoted file -/
theorem write_granted_by_last_rule (env : PathEnv) (cfg : Config) (target cwd : String) (m : Match)
    (hm : matchRedirect env cfg target cwd = some m) :
    ∃ r, (cfg.redirectRules.filter fun r => redirectRuleMatches env r target cwd).getLast? = some r ∧ m = r.toMatch := by
  unfold matchRedirect at hm
  rw [lastMatch_eq] at hm
  simp only [Option.map_eq_some_iff] at hm
  obtain ⟨r, hr, hrm⟩ := hm
  exact ⟨r, hr, hrm.symm⟩

/-- an appended redirect rule decides every target it matches: a later ask or deny overrides a grant -/
theorem later_rule_overrides (env : PathEnv) (cfg : Config) (r : Rule) (target cwd : String)
    (hr : redirectRuleMatches env r target cwd = true) :
    matchRedirect env { cfg with redirectRules := cfg.redirectRules ++ [r] } target cwd = some r.toMatch := by
  unfold matchRedirect
  rw [lastMatch_snoc]
  simp [hr]

set_option linter.unusedVariables false in -- `hact`: the target loop runs before the action is looked at
/-- **tool-reported write targets**: a handler CLI is allowed only if every reported target that is not
    a non-file sink is granted -/
theorem tool_targets_granted (tokens : List String) (cwd : String) (t : String)
    (hs : w.simpleSafe (tokens.headD "") = false)
    (hv : isVersionOrHelp h.helpWords h.helpFlags2 h.helpFlagsLast tokens = false)
    (hh : w.hasHandler (tokens.headD "") = true)
    (hact : (w.classify tokens).action = "allow")
    (ht : t ∈ (w.classify tokens).redirectTargets) (hsink : w.safeTarget t = false)
    (ha : (builtinVerdict w rec h.helpWords h.helpFlags2 h.helpFlagsLast tokens cwd false).action = .allow) :
    ∃ m, w.matchRedirect t cwd = some m ∧ m.decision = .allow := by
  unfold builtinVerdict at ha
  have hne : (w.classify tokens).redirectTargets.isEmpty = false :=
    List.isEmpty_eq_false_iff.2 (List.ne_nil_of_mem ht)
  simp only [hs, Bool.false_eq_true, ↓reduceIte, hv, Bool.false_and, hh, hne, Bool.not_false, Bool.and_self] at ha
  -- the target loop returned no decision, otherwise the verdict would not be allow
  split at ha
  · next d hd => exact absurd ha (checkTargets_some w _ _ hd)
  · next hn => exact (checkTargets_none w _ _ hn ht hsink).2

/-! ### the operator and sink tables, stated independently of the code -/

/-- operators that open their target for writing (bash manual, REDIRECTION) -/
def specWriteOps : List String := [">", ">>", ">|", "&>", "&>>", "<>", ">&"]

/-- every write operator is in the table the analyzer uses (T0: `_WRITE_REDIRECT_OPS`) -/
theorem op_table_complete : specWriteOps.all (fun op => Generated.redirectOps.contains op) = true := by decide +kernel

/-- … and the table contains nothing that only reads -/
theorem op_table_sound : Generated.redirectOps.all (fun op => specWriteOps.contains op) = true := by decide +kernel

-- any fd prefix is transparent: `N>`, `{var}>>` are the bare operator
example : stripFd "2>" = ">" ∧ stripFd "10>>" = ">>" ∧ stripFd "{fd}>" = ">" ∧ stripFd "{out_1}>|" = ">|"
    ∧ stripFd "3<>" = "<>" ∧ stripFd ">&" = ">&" ∧ stripFd "&>>" = "&>>" := by decide +kernel

theorem fd_prefix_regex : Generated.fdPrefixRe = "^(\\d+|\\{[A-Za-z_][A-Za-z0-9_]*\\})" := rfl

/-- the only targets exempt from the rules are non-file sinks -/
theorem sink_table : Generated.safeRedirectTargets.all
    (fun t => ["-", "/dev/null", "/dev/stdin", "/dev/stdout"].contains t) = true := by decide +kernel

end Dippy.C02
