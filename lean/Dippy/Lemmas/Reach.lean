/-
Coverage (R2): every evaluation step of the specification `Child` stays inside the atoms of the
flattening, so the atoms of anything reachable are atoms of the whole – and an approved tree has
only allow decisions at every atom of everything reachable in it (R1 + R2, `reach_allowed`).
-/
import Dippy.Spec.Reach
import Dippy.Lemmas.Flat

namespace Dippy

/-- the atoms of a piece of syntax under a cwd -/
def Piece.atoms (s : Syn) (p : Piece) (cwd : String) (r : Bool) : List Atom :=
  match p with
  | .node n => flat s n cwd r
  | .word wd => flatWord s wd cwd r
  | .part wd pt => flatWordParts s wd [pt] cwd r
  | .redir rd => flatRedirects s [rd] cwd r
  | .cond c => flatCond s c cwd r
  | .arith a => flatArith s a cwd r
  | .text ps t => [.text ps (some t) cwd r]

section
variable (s : Syn)

theorem mem_of_cons_append {α : Type} {F : List α → List Atom} {f : α → List Atom}
    (hcons : ∀ a l, F (a :: l) = f a ++ F l) {l : List α} {a : α} (ha : a ∈ l) {x : Atom} (hx : x ∈ f a) :
    x ∈ F l := by
  induction l with
  | nil => cases ha
  | cons b l ih =>
    rw [hcons]
    cases ha with
    | head => exact List.mem_append_left _ hx
    | tail _ ha => exact List.mem_append_right _ (ih ha)

theorem mem_flatNodes {ns : List Node} {n : Node} (hn : n ∈ ns) (cwd : String) (r : Bool) (x : Atom)
    (hx : x ∈ flat s n cwd r) : x ∈ flatNodes s ns cwd r :=
  mem_of_cons_append (F := (flatNodes s · cwd r)) (fun _ _ => flatNodes_cons ..) hn hx

theorem mem_flatWords {ws : List Word} {wd : Word} (hw : wd ∈ ws) (cwd : String) (r : Bool) (x : Atom)
    (hx : x ∈ flatWord s wd cwd r) : x ∈ flatWords s ws cwd r :=
  mem_of_cons_append (F := (flatWords s · cwd r)) (fun _ _ => flatWords_cons ..) hw hx

theorem mem_flatRedirects {rs : List Redir} {rd : Redir} (hr : rd ∈ rs) (cwd : String) (r : Bool) (x : Atom)
    (hx : x ∈ flatRedirects s [rd] cwd r) : x ∈ flatRedirects s rs cwd r :=
  mem_of_cons_append (F := (flatRedirects s · cwd r)) (fun _ _ => flatRedirects_cons ..) hr hx

theorem mem_flatCasePats {pats : List CasePat} {pat : String} {body : Option Node} (hp : CasePat.mk pat body ∈ pats)
    (cwd : String) (r : Bool) (x : Atom) (hx : x ∈ Atom.text true (some pat) cwd r :: flatOptNode s body cwd r) :
    x ∈ flatCasePats s pats cwd r :=
  mem_of_cons_append (F := (flatCasePats s · cwd r))
    (f := fun p => match p with | .mk pat body => Atom.text true (some pat) cwd r :: flatOptNode s body cwd r)
    (fun p _ => by cases p; exact flatCasePats_cons ..) hp hx

theorem mem_flatListParts {ns : List Node} {n : Node} (hn : n ∈ ns) (hop : isOperator n = false)
    (cwd : String) (r : Bool) (x : Atom) (hx : x ∈ flat s n cwd r) : x ∈ flatListParts s ns cwd r := by
  rw [flatListParts_eq]
  exact mem_flatNodes s (List.mem_filter.2 ⟨hn, by rw [hop]; rfl⟩) cwd r x hx

theorem flatWordParts_sub_flatCmdParts (ctx : CmdCtx) (wd : Word) (pos : Nat) (ps : List Part) (cwd : String) (r : Bool)
    (x : Atom) (hx : x ∈ flatWordParts s wd ps cwd r) : x ∈ flatCmdParts s ctx wd pos ps cwd r := by
  induction ps with
  | nil => rw [flatWordParts_nil] at hx; cases hx
  | cons p ps ih =>
    rw [flatWordParts_cons, flatWordParts_single] at hx
    rw [flatCmdParts_cons, flatCmdParts_single]
    cases List.mem_append.1 hx with
    | inr hx => exact List.mem_append_right _ (ih hx)
    | inl hx =>
      refine List.mem_append_left _ ?_
      -- the two walkers differ only in the injection atom
      cases p with
      | cmdsub => exact List.mem_append_left _ hx
      | _ => exact hx

theorem wordAtoms_sub_flatCmdWords (ctx : CmdCtx) {ws : List Word} {v : String} {ps : List Part}
    (hw : Word.mk v ps ∈ ws) (pos : Nat) (cwd : String) (r : Bool) :
    ∃ p, ∀ x ∈ subscriptAtoms v cwd r ++ flatCmdParts s ctx (.mk v ps) p ps cwd r,
      x ∈ flatCmdWords s ctx ws pos cwd r := by
  induction ws generalizing pos with
  | nil => cases hw
  | cons m ms ih =>
    obtain ⟨v', ps'⟩ := m
    rw [flatCmdWords_cons]
    cases hw with
    | head => exact ⟨pos, fun x hx => List.mem_append_left _ hx⟩
    | tail _ hw => exact (ih hw (pos + 1)).imp fun p hp x hx => List.mem_append_right _ (hp x hx)

theorem mem_flatCmdWords (ctx : CmdCtx) {ws : List Word} {wd : Word} (hw : wd ∈ ws) (pos : Nat) (cwd : String)
    (r : Bool) (x : Atom) (hx : x ∈ flatWord s wd cwd r) : x ∈ flatCmdWords s ctx ws pos cwd r := by
  obtain ⟨v, ps⟩ := wd
  obtain ⟨p, hp⟩ := wordAtoms_sub_flatCmdWords s ctx hw pos cwd r
  exact hp x (List.mem_append_right _ (flatWordParts_sub_flatCmdParts s ctx _ p ps cwd r x (flatWord_mk s .. ▸ hx)))

theorem mem_flatCmdWords_subscript (ctx : CmdCtx) {ws : List Word} {wd : Word} (hw : wd ∈ ws) (pos : Nat) (cwd : String) (r : Bool)
    (t : String) (ht : assignSubscript wd.value = some t) : Atom.text false (some t) cwd r ∈ flatCmdWords s ctx ws pos cwd r := by
  obtain ⟨v, ps⟩ := wd
  obtain ⟨p, hp⟩ := wordAtoms_sub_flatCmdWords s ctx hw pos cwd r
  exact hp _ (List.mem_append_left _ (by rw [subscriptAtoms, show assignSubscript v = some t from ht]; exact .head _))

theorem condRescan_eq_true (v : String) (ps : List Part) (regex : Bool)
    (hc : ps = [] ∨ Py.hasChar v '\'' = true ∨ regex = true) : condRescan v ps regex = true := by
  unfold condRescan; rcases hc with h | h | h <;> simp [h]

theorem mem_flatCondOperand_text {v : String} {ps : List Part} {regex : Bool} (cwd : String) (r : Bool)
    (hc : condRescan v ps regex = true) :
    Atom.text true (some v) cwd r ∈ flatCondOperand s regex (.mk v ps) cwd r := by
  unfold flatCondOperand; rw [hc]; exact List.mem_append_right _ (.head _)

theorem find_flatArithAttrs (a : String) (x : Arith) (cwd : String) (r : Bool) :
    ∀ (attrs : List (String × AVal)), attrs.find? (fun kv => kv.1 == a) = some (a, .one x) →
      (flatArithAttrs s attrs cwd r).find? (fun kv => kv.1 == a) = some (a, flatArith s x cwd r)
  | [], hf => by cases hf
  | (k, v) :: rest, hf => by
    unfold flatArithAttrs
    rw [List.find?_cons] at hf ⊢
    cases hk : k == a with
    | false => rw [hk] at hf; exact find_flatArithAttrs a x cwd r rest hf
    | true => rw [hk] at hf; cases hf; rfl

end

open List (mem_append_left mem_append_right) in
/-- one step of evaluation stays inside the atoms -/
theorem child_atoms (w : World) (r : Bool) (a b : Piece × String)
    (hc : Child w.resolveCd w.arithWalked r a b) :
    ∀ x ∈ b.1.atoms w.syn b.2 r, x ∈ a.1.atoms w.syn a.2 r := by
  intro x hx
  -- `unfold flat`, not unfolding by defeq: the kernel would redo the recursion of `flat` in every case
  cases hc <;> dsimp only [Piece.atoms] at hx ⊢
  case cmdWord hw => unfold flat; exact mem_append_left _ (mem_append_left _ (mem_flatCmdWords _ _ hw 0 _ r x hx))
  case cmdSubscript hw ht =>
    unfold flat
    exact List.mem_singleton.1 hx ▸
      mem_append_left _ (mem_append_left _ (mem_flatCmdWords_subscript _ _ hw 0 _ r _ ht))
  case cmdRedir hr => unfold flat; exact mem_append_left _ (mem_append_right _ (mem_flatRedirects _ hr _ r x hx))
  case pipeline hn => unfold flat; exact mem_flatNodes _ hn _ r x hx
  case listFirst hn => unfold flat; rw [flatListPartsCd_eq, hn]; exact mem_append_left _ hx
  case list hn hop => unfold flat; rw [flatListPartsCd_eq]; exact mem_append_right _ (mem_flatListParts _ hn hop _ r x hx)
  -- redirections are the last summand
  case ifRedir hr | whileRedir hr | forRedir hr | forArithRedir hr | selectRedir hr | caseRedir hr | subshellRedir hr
      | braceRedir hr | condRedir hr =>
    unfold flat; exact mem_append_right _ (mem_flatRedirects _ hr _ r x hx)
  case arithCmdRedir hr => unfold flat; exact mem_append_right _ (mem_flatRedirects _ hr _ r x hx)
  case functionBody | timeBody | negationBody | coprocBody => unfold flat; exact hx
  -- one summand of two, three or four (`++` associates to the left)
  case subshellBody | braceBody | condBody | arithCmdText | arithCmdTree => unfold flat; exact mem_append_left _ hx
  case whileCond | forBody | forArithBody | selectBody | caseWord =>
    unfold flat; exact mem_append_left _ (mem_append_left _ hx)
  case ifElse | whileBody => unfold flat; exact mem_append_left _ (mem_append_right _ hx)
  case ifCond => unfold flat; exact mem_append_left _ (mem_append_left _ (mem_append_left _ hx))
  case ifThen => unfold flat; exact mem_append_left _ (mem_append_left _ (mem_append_right _ hx))
  case forWord hw | selectWord hw =>
    unfold flat; exact mem_append_left _ (mem_append_right _ (mem_flatWords _ hw _ r x hx))
  case forArithInit => unfold flat; exact List.mem_singleton.1 hx ▸ mem_append_left _ (mem_append_right _ (.head _))
  case forArithCond =>
    unfold flat; exact List.mem_singleton.1 hx ▸ mem_append_left _ (mem_append_right _ (.tail _ (.head _)))
  case forArithIncr =>
    unfold flat; exact List.mem_singleton.1 hx ▸ mem_append_left _ (mem_append_right _ (.tail _ (.tail _ (.head _))))
  case casePattern hp =>
    unfold flat
    exact List.mem_singleton.1 hx ▸ mem_append_left _ (mem_append_right _ (mem_flatCasePats _ hp _ r _ (.head _)))
  case caseBody hp => unfold flat; exact mem_append_left _ (mem_append_right _ (mem_flatCasePats _ hp _ r x (.tail _ hx)))
  case wordPart hp =>
    unfold flatWord
    exact mem_of_cons_append (F := (flatWordParts w.syn _ · _ r)) (f := (flatWordParts w.syn _ [·] _ r))
      (fun _ _ => flatWordParts_cons ..) hp hx
  case cmdsub | procsub | paramLenName | arithOldText => rw [flatWordParts_single]; exact hx
  case paramName | paramIndName => rw [flatWordParts_single]; exact List.mem_singleton.1 hx ▸ .head _
  case paramArg | paramIndArg => rw [flatWordParts_single]; exact List.mem_singleton.1 hx ▸ .tail _ (.head _)
  case arithText ht => rw [flatWordParts_single]; exact List.mem_singleton.1 hx ▸ List.mem_map_of_mem ht
  case arrayElem he => rw [flatWordParts_single]; exact mem_flatWords _ he _ r x hx
  case redirTarget => rw [flatRedirects_single]; exact mem_append_left _ hx
  case heredocBody => rw [flatRedirects_single]; exact hx
  case notOperand | parenInner => unfold flatCond; exact hx
  case unaryOperand | andLeft | orLeft => unfold flatCond; exact mem_append_left _ hx
  case andRight | orRight => unfold flatCond; exact mem_append_right _ hx
  case binaryLeft => unfold flatCond; exact mem_append_left _ (mem_append_left _ hx)
  case binaryRight => unfold flatCond; exact mem_append_right _ (mem_append_left _ hx)
  case unaryText hc =>
    unfold flatCond
    exact List.mem_singleton.1 hx ▸ mem_flatCondOperand_text _ _ r (condRescan_eq_true _ _ _ (hc.imp_right .inl))
  case binaryLeftText hc =>
    unfold flatCond
    exact List.mem_singleton.1 hx ▸
      mem_append_left _ (mem_flatCondOperand_text _ _ r (condRescan_eq_true _ _ _ (hc.imp_right .inl)))
  case binaryRightText hc =>
    unfold flatCond
    exact List.mem_singleton.1 hx ▸ mem_append_right _ (mem_flatCondOperand_text _ _ r
      (condRescan_eq_true _ _ _ (hc.imp_right (.imp_right fun h => by simp [h]))))
  case arithCmdsub => unfold flatArith; exact hx
  case arithAttr ha hf =>
    unfold flatArith; exact List.mem_flatMap.2 ⟨_, ha, by rw [find_flatArithAttrs _ _ _ _ r _ hf]; exact hx⟩

/-- the atoms of anything reachable are atoms of the whole -/
theorem reach_atoms (w : World) (r : Bool) (a b : Piece × String)
    (h : Reach w.resolveCd w.arithWalked r a b) :
    ∀ x ∈ b.1.atoms w.syn b.2 r, x ∈ a.1.atoms w.syn a.2 r := by
  induction h with
  | refl => intro x hx; exact hx
  | step hc _ ih => intro x hx; exact child_atoms w r _ _ hc x (ih x hx)

section
variable (w : World) (rec : Rec) (h : HelpTables)

/-- R1 + R2: an approved tree has only allow decisions at everything reachable in it -/
theorem reach_allowed (n : Node) (cwd : String) (r : Bool) (ha : (aNode w rec h n cwd r).action = .allow)
    {p : Piece × String} (hr : Reach w.resolveCd w.arithWalked r (.node n, cwd) p) :
    ∀ x ∈ p.1.atoms w.syn p.2 r, ∀ d ∈ atomDecisions w rec h x, d.action = .allow :=
  fun x hx => (allow_iff_atoms w rec h n cwd r).1 ha x (reach_atoms w r _ _ hr x hx)

end

end Dippy
