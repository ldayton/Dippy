/-
R3: `lastMatch p xs` (the loop "iterate all rules, keep the last match") is the last
element of the filtered list; non-matching rules are inert.
-/
import Dippy.Model.Config

namespace Dippy

theorem lastMatch_snoc {α : Type} (p : α → Bool) (xs : List α) (r : α) :
    lastMatch p (xs ++ [r]) = if p r then some r else lastMatch p xs := by
  unfold lastMatch
  rw [List.foldl_append]
  rfl

theorem lastMatch_eq {α : Type} (p : α → Bool) (xs : List α) :
    lastMatch p xs = (xs.filter p).getLast? := by
  -- induction from the right: on `xs.reverse`
  rw [← List.reverse_reverse xs]
  induction xs.reverse with
  | nil => rfl
  | cons x r ih =>
    rw [List.reverse_cons, lastMatch_snoc, ih, List.filter_append]
    cases hx : p x <;> simp [hx]

theorem lastMatch_append {α : Type} (p : α → Bool) (xs ys : List α) :
    lastMatch p (xs ++ ys) = match lastMatch p ys with
      | some y => some y
      | none => lastMatch p xs := by
  simp only [lastMatch_eq, List.filter_append, List.getLast?_append]
  cases (ys.filter p).getLast? <;> rfl

theorem lastMatch_inert {α : Type} (p : α → Bool) (a b : List α) (r : α) (h : p r = false) :
    lastMatch p (a ++ r :: b) = lastMatch p (a ++ b) := by
  rw [lastMatch_eq, lastMatch_eq]
  simp [List.filter_append, h]

theorem lastMatch_some {α : Type} {p : α → Bool} {xs : List α} {x : α} (h : lastMatch p xs = some x) :
    x ∈ xs ∧ p x = true := by
  rw [lastMatch_eq] at h
  have := List.mem_of_getLast? h
  simpa [List.mem_filter] using this

theorem lastMatch_none {α : Type} {p : α → Bool} {xs : List α} :
    lastMatch p xs = none ↔ ∀ x ∈ xs, p x = false := by
  rw [lastMatch_eq]
  simp

theorem lastMatch_insert {α : Type} (p : α → Bool) (a b : List α) (r : α) :
    lastMatch p (a ++ r :: b) = lastMatch p (a ++ b) ∨ (lastMatch p (a ++ r :: b) = some r ∧ p r = true) := by
  cases h : p r with
  | false => exact .inl (lastMatch_inert p a b r h)
  | true =>
    have hr : lastMatch p (a ++ [r]) = some r := by rw [lastMatch_snoc, h]; rfl
    rw [show a ++ r :: b = (a ++ [r]) ++ b by simp, lastMatch_append, lastMatch_append p a b, hr]
    cases lastMatch p b with
    | some y => exact .inl rfl
    | none => exact .inr ⟨rfl, rfl⟩

theorem matchCommand_congr (env : PathEnv) {c₁ c₂ : Config} (hr : c₁.rules = c₂.rules)
    (ha : c₁.aliases = c₂.aliases) (ws : List String) (cwd : String) (rem : Bool) :
    matchCommand env c₁ ws cwd rem = matchCommand env c₂ ws cwd rem := by
  unfold matchCommand matchWords normalizedCmd resolveAlias
  rw [hr, ha]

theorem matchRedirect_congr (env : PathEnv) {c₁ c₂ : Config} (hd : c₁.redirectRules = c₂.redirectRules)
    (t cwd : String) : matchRedirect env c₁ t cwd = matchRedirect env c₂ t cwd := by
  unfold matchRedirect
  rw [hd]

theorem matchMcp_congr {c₁ c₂ : Config} (h : c₁.mcpRules = c₂.mcpRules) (tool : String) :
    matchMcp c₁ tool = matchMcp c₂ tool := by
  unfold matchMcp
  rw [h]

end Dippy
