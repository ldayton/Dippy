/-
Generated string tables are compared and scanned through their UTF-8 bytes: the kernel evaluates `String` equality by
encoding both sides at every comparison, and `String.toList` by decoding the bytes again.  `strKey` gives each string
one number, computed once; a property of the characters of an ASCII name is tested on its bytes.
-/
namespace Dippy

/-- the bytes as base-256 digits, lowest first, under a leading 1 (so that zero bytes and the length count) -/
def bytesKey : List UInt8 → Nat
  | [] => 1
  | b :: bs => bytesKey bs * 256 + b.toNat

def strKey (s : String) : Nat := bytesKey s.toByteArray.data.toList

theorem bytesKey_pos (bs : List UInt8) : 0 < bytesKey bs := by
  induction bs with
  | nil => decide
  | cons b bs ih => simp only [bytesKey]; omega

theorem bytesKey_inj {as bs : List UInt8} (h : bytesKey as = bytesKey bs) : as = bs := by
  induction as generalizing bs with
  | nil =>
    cases bs with
    | nil => rfl
    | cons b bs => have := bytesKey_pos bs; simp [bytesKey] at h; omega
  | cons a as ih =>
    cases bs with
    | nil => have := bytesKey_pos as; simp [bytesKey] at h; omega
    | cons b bs =>
      simp only [bytesKey] at h
      have ha := a.toNat_lt
      have hb := b.toNat_lt
      rw [ih (bs := bs) (by omega), UInt8.toNat_inj.mp (show a.toNat = b.toNat by omega)]

theorem strKey_inj {s t : String} (h : strKey s = strKey t) : s = t := by
  exact String.toByteArray_inj.mp (ByteArray.ext (Array.toList_inj.mp (bytesKey_inj h)))

theorem contains_strKey (l : List String) (x : String) : (l.map strKey).contains (strKey x) = l.contains x := by
  induction l with
  | nil => rfl
  | cons y l ih =>
    simp only [List.map_cons, List.contains_cons, ih]
    congr 1
    rw [Bool.eq_iff_iff]
    simp only [beq_iff_eq]
    exact ⟨strKey_inj, congrArg strKey⟩

theorem disjoint_of_keys (as bs : List String)
    (h : (as.map strKey).all (fun k => !(bs.map strKey).contains k) = true) :
    as.all (fun a => !bs.contains a) = true := by
  rw [List.all_map] at h
  simpa only [Function.comp_def, contains_strKey] using h

/-- a byte below 128 whose character satisfies `p` -/
def asciiByte (p : Char → Bool) (b : UInt8) : Bool := decide (b.toNat < 128) && p (Char.ofNat b.toNat)

/-- a character whose UTF-8 bytes are all ASCII is the character of its one byte -/
theorem char_of_asciiBytes (p : Char → Bool) (c : Char) (h : (String.utf8EncodeChar c).all (asciiByte p) = true) :
    p c = true := by
  unfold String.utf8EncodeChar at h
  dsimp only at h  -- the `let` of the definition
  split at h
  · -- one byte
    rename_i hv
    have : Char.ofNat (c.toNat % 256) = c := by
      rw [Nat.mod_eq_of_lt (show c.toNat < 256 from Nat.lt_of_le_of_lt hv (by decide))]; exact Char.ofNat_toNat c
    simp [asciiByte, this] at h
    exact h.2
  · -- two to four bytes: the lead byte is 192 or more
    exfalso
    split at h
    rotate_left  -- the `else` goal (three or four bytes) first: it is split once more
    split at h
    all_goals
      simp only [List.all_cons, asciiByte, Bool.and_eq_true, decide_eq_true_eq, UInt8.toNat_ofNat'] at h
      omega

theorem all_of_asciiBytes (p : Char → Bool) (s : String) (h : s.toByteArray.data.toList.all (asciiByte p) = true) :
    s.toList.all p = true := by
  rw [← String.utf8Encode_toList, List.utf8Encode, List.toList_data_toByteArray, List.all_flatMap] at h
  exact List.all_eq_true.mpr fun c hc => char_of_asciiBytes p c (List.all_eq_true.mp h c hc)

end Dippy
