/-
R1, flattened: the verdict of any tree is the join of the verdicts of its atoms.
One mutual structural induction over the AST; everything downstream is list reasoning.
-/
import Dippy.Model.Flat
import Dippy.Lemmas.Walk

namespace Dippy

section
variable (w : World) (rec : Rec) (h : HelpTables)

/-- the join of the decisions of a list of atoms; `S (leaves w rec h n cwd r)` (Model/Flat) is
    `L w rec h (flat w.syn n cwd r)` by definition -/
def L (as : List Atom) : Action := S (as.flatMap (atomDecisions w rec h))

@[simp] theorem L_nil : L w rec h [] = .allow := rfl
@[simp] theorem L_append (a b : List Atom) : L w rec h (a ++ b) = Action.sup (L w rec h a) (L w rec h b) := by
  simp [L, List.flatMap_append]
@[simp] theorem L_cons (a : Atom) (as : List Atom) :
    L w rec h (a :: as) = Action.sup (S (atomDecisions w rec h a)) (L w rec h as) := by
  simp [L, List.flatMap_cons]

theorem S_injectionRisk (ctx : CmdCtx) (wd : Word) (pos : Nat) :
    S (injectionRisk w ctx wd pos) = .allow ∨ S (injectionRisk w ctx wd pos) = .ask := by
  fun_cases injectionRisk w ctx wd pos with
  | case1 => exact .inr rfl  -- the prompt
  | _ => exact .inl rfl

theorem sup_inject_of_nonallow (a : Action) (ctx : CmdCtx) (wd : Word) (pos : Nat) (ha : a ≠ .allow) :
    Action.sup a (S (injectionRisk w ctx wd pos)) = a := by
  rcases S_injectionRisk w ctx wd pos with h1 | h1 <;> rw [h1] <;> cases a <;> simp_all [Action.sup]

/-- also for `""`: the empty text holds nothing to find -/
theorem scanArg_some (ps : Bool) (t : String) (cwd : String) (r : Bool) :
    scanArg rec ps (some t) cwd r = scanDecisions rec ps t cwd r := by
  unfold scanArg Py.truthy
  by_cases ht : t.isEmpty = true
  · obtain rfl : t = "" := by simpa using ht
    simp [scanDecisions, scanItems, scanAux]
  · simp [ht]

theorem S_flatMap_congr {α : Type} (l : List α) (f g : α → List Decision) (hfg : ∀ a ∈ l, S (f a) = S (g a)) :
    S (l.flatMap f) = S (l.flatMap g) := by
  induction l with
  | nil => rfl
  | cons a l ih =>
    simp only [List.flatMap_cons, S_append]
    rw [hfg a (List.mem_cons_self ..), ih (fun x hx => hfg x (List.mem_cons_of_mem _ hx))]

theorem L_texts (ps : Bool) (ts : List String) (cwd : String) (r : Bool) :
    L w rec h (ts.map fun t => Atom.text ps (some t) cwd r) = S (ts.flatMap fun t => scanDecisions rec ps t cwd r) := by
  induction ts with
  | nil => rfl
  | cons t ts ih => simp [atomDecisions, scanArg_some, ih]

theorem expansion_flat (wd : Word) (p : Part) (cwd : String) (r : Bool) :
    S (expansionTexts rec wd p cwd r) = L w rec h (expansionAtoms wd p cwd r) := by
  cases p <;> simp [expansionTexts, expansionAtoms, atomDecisions, L_texts]

theorem L_redir_unless (c : Prop) [Decidable c] (op t cwd : String) :
    L w rec h (if c then [] else [.redir op t cwd]) = S (if c then [] else redirectDecision w op t cwd) := by
  split <;> simp [atomDecisions]

/- `unfold` before `simp`, and the recursive argument of `cmdParts_flat` and `wordParts_flat` named, for the reasons
   given at `node_flag` (Lemmas/Remote). -/
mutual

theorem node_flat : ∀ (n : Node) (cwd : String) (r : Bool),
    (aNode w rec h n cwd r).action = L w rec h (flat w.syn n cwd r)
  | .command ws rs, cwd, r => by
    have h1 := cmdWords_flat (mkCmdCtx w ws) ws 0 cwd r
    have h2 := redirects_flat rs cwd r
    unfold aNode flat
    simp only [L_append, L_cons, L_nil, atomDecisions, properDecisions, unquotedDecisions, World.syn_hasHandler,
      World.syn_simpleSafe, mkCmdCtx] at h1 ⊢
    generalize hctx : mkCmdCtxS w.hasHandler w.simpleSafe ws = ctx at h1 ⊢
    -- `properDecisions` spells out what `aNode` reads as `ctx.base`
    have hb : ctx.base = ctx.words.getD ctx.baseIdx "" := hctx ▸ rfl
    -- `by_cases`, not `split`: on a goal of this size each `split` costs more than all the rest of the case
    by_cases hw : ctx.words.isEmpty = true  -- no words at all
    · rw [if_pos hw, combine_or_allow, S_append, h1, h2]; simp [hw]
    rw [if_neg hw, ← hb]
    by_cases ht : (ctx.base == "[" || ctx.base == "test") = true
    · rw [if_pos ht, combine_action]; simp [hw, ht, h1, h2]
    rw [if_neg ht]
    by_cases ha : ctx.baseIdx ≥ ctx.words.length  -- assignments only
    · rw [if_pos ha, combine_action]; simp [hw, ht, ha, h1, h2]
    · rw [if_neg ha, combine_action]; simp [hw, ht, ha, h1, h2, Action.sup_assoc, S_cmdDecisions]
  | .pipeline cmds, cwd, r => by unfold aNode flat; simp only [rejoin_action, nodes_flat cmds cwd r]
  | .list parts, cwd, r => by
    unfold aNode flat; simp only [World.syn_resolveCd, rejoin_action, listPartsCd_flat parts _ _ r]
  | .ifN c t e rs, cwd, r => by
    unfold aNode flat
    simp [combine_action, node_flat c cwd r, node_flat t cwd r, optNode_flat e cwd r, redirects_flat rs cwd r]
  | .whileN _ c b rs, cwd, r => by
    unfold aNode flat; simp [combine_action, node_flat c cwd r, node_flat b cwd r, redirects_flat rs cwd r]
  | .forN _ ws b rs, cwd, r => by
    unfold aNode flat; simp [combine_action, node_flat b cwd r, words_flat ws cwd r, redirects_flat rs cwd r]
  | .forArith i c s b rs, cwd, r => by
    unfold aNode flat; simp [combine_action, atomDecisions, node_flat b cwd r, redirects_flat rs cwd r]
  | .selectN _ ws b rs, cwd, r => by
    unfold aNode flat; simp [combine_action, node_flat b cwd r, words_flat ws cwd r, redirects_flat rs cwd r]
  | .caseN wd pats rs, cwd, r => by
    unfold aNode flat
    rw [combine_or_allow]
    simp [optWord_flat wd cwd r, casePats_flat pats cwd r, redirects_flat rs cwd r]
  | .function _ b, cwd, r => node_flat b cwd r
  | .subshell b rs, cwd, r => by unfold aNode flat; simp [combine_action, node_flat b cwd r, redirects_flat rs cwd r]
  | .braceGroup b rs, cwd, r => by unfold aNode flat; simp [combine_action, node_flat b cwd r, redirects_flat rs cwd r]
  | .time p, cwd, r => node_flat p cwd r
  | .negation p, cwd, r => node_flat p cwd r
  | .coproc c, cwd, r => node_flat c cwd r
  | .condExpr b rs, cwd, r => by
    unfold aNode flat
    rw [combine_or_allow]
    simp [optCond_flat b cwd r, redirects_flat rs cwd r]
  | .arithCmd e raw rs, cwd, r => by
    unfold aNode flat
    rw [combine_or_allow]
    cases raw with
    | none => simp [optArith_flat e cwd r, redirects_flat rs cwd r]
    | some t => simp [atomDecisions, scanArg_some, redirects_flat rs cwd r]
  | .comment, _, _ => rfl
  | .empty, _, _ => rfl
  | .operator _, _, _ => by unfold aNode flat; simp [atomDecisions]
  | .other k, _, _ => by unfold aNode flat; simp [atomDecisions]

theorem nodes_flat : ∀ (ns : List Node) (cwd : String) (r : Bool),
    S (aNodes w rec h ns cwd r) = L w rec h (flatNodes w.syn ns cwd r)
  | [], _, _ => rfl
  | n :: ns, cwd, r => by unfold aNodes flatNodes; simp [node_flat n cwd r, nodes_flat ns cwd r]

theorem listParts_flat : ∀ (ns : List Node) (cwd : String) (r : Bool),
    S (aListParts w rec h ns cwd r) = L w rec h (flatListParts w.syn ns cwd r)
  | [], _, _ => rfl
  | n :: ns, cwd, r => by
    unfold aListParts flatListParts
    split
    · exact listParts_flat ns cwd r
    · simp [node_flat n cwd r, listParts_flat ns cwd r]

theorem listPartsCd_flat : ∀ (ns : List Node) (cwd0 cwd : String) (r : Bool),
    S (aListPartsCd w rec h ns cwd0 cwd r) = L w rec h (flatListPartsCd w.syn ns cwd0 cwd r)
  | [], _, _, _ => rfl
  | n :: ns, cwd0, cwd, r => by
    unfold aListPartsCd flatListPartsCd
    split
    · exact listPartsCd_flat ns cwd0 cwd r
    · simp [node_flat n cwd0 r, listParts_flat ns cwd r]

theorem optNode_flat : ∀ (e : Option Node) (cwd : String) (r : Bool),
    S (aOptNode w rec h e cwd r) = L w rec h (flatOptNode w.syn e cwd r)
  | none, _, _ => rfl
  | some n, cwd, r => by unfold aOptNode flatOptNode; simp [node_flat n cwd r]

theorem cmdWords_flat (ctx : CmdCtx) : ∀ (ws : List Word) (pos : Nat) (cwd : String) (r : Bool),
    S (aCmdWords w rec h ctx ws pos cwd r) = L w rec h (flatCmdWords w.syn ctx ws pos cwd r)
  | [], _, _, _ => rfl
  | .mk v ps :: ws, pos, cwd, r => by
    unfold aCmdWords flatCmdWords
    simp only [S_append, L_append, cmdParts_flat ctx (.mk v ps) pos ps cwd r, cmdWords_flat ctx ws (pos + 1) cwd r]
    cases assignSubscript v with
    | none => rfl
    | some t => simp [atomDecisions, scanArg_some]

theorem cmdParts_flat (ctx : CmdCtx) (wd : Word) (pos : Nat) : ∀ (ps : List Part) (cwd : String) (r : Bool),
    S (aCmdParts w rec h ctx wd pos ps cwd r) = L w rec h (flatCmdParts w.syn ctx wd pos ps cwd r)
  | [], _, _ => rfl
  | p :: ps, cwd, r => by
    have ih := cmdParts_flat ctx wd pos ps cwd r
    unfold aCmdParts flatCmdParts
    cases p with
    | cmdsub cmd =>
      simp only [S_append, L_append, L_cons, L_nil, atomDecisions, ih, ← node_flat cmd cwd r]
      -- a substitution that is not allowed swallows its injection-risk prompt
      by_cases ha : (aNode w rec h cmd cwd r).action = .allow
      · simp [ha]
      · simp [ha, sup_inject_of_nonallow w _ ctx wd pos ha]
    | procsub dir cmd => simp [ih, node_flat cmd cwd r]
    | array elems => simp [ih, words_flat elems cwd r]
    | _ => simp [ih, expansion_flat w rec h]
termination_by structural ps => ps

theorem wordParts_flat (wd : Word) : ∀ (ps : List Part) (cwd : String) (r : Bool),
    S (aWordParts w rec h wd ps cwd r) = L w rec h (flatWordParts w.syn wd ps cwd r)
  | [], _, _ => rfl
  | p :: ps, cwd, r => by
    have ih := wordParts_flat wd ps cwd r
    unfold aWordParts flatWordParts
    cases p with
    | cmdsub cmd => simp [ih, node_flat cmd cwd r]
    | procsub dir cmd => simp [ih, node_flat cmd cwd r]
    | array elems => simp [ih, words_flat elems cwd r]
    | _ => simp [ih, expansion_flat w rec h]
termination_by structural ps => ps

theorem word_flat : ∀ (wd : Word) (cwd : String) (r : Bool),
    S (aWord w rec h wd cwd r) = L w rec h (flatWord w.syn wd cwd r)
  | .mk v ps, cwd, r => wordParts_flat (.mk v ps) ps cwd r

theorem condOperand_flat (regex : Bool) : ∀ (wd : Word) (cwd : String) (r : Bool),
    S (aCondOperand w rec h regex wd cwd r) = L w rec h (flatCondOperand w.syn regex wd cwd r)
  | .mk v ps, cwd, r => by
    unfold aCondOperand flatCondOperand
    simp only [S_append, L_append, wordParts_flat (.mk v ps) ps cwd r]
    split <;> simp [atomDecisions]

theorem words_flat : ∀ (ws : List Word) (cwd : String) (r : Bool),
    S (aWords w rec h ws cwd r) = L w rec h (flatWords w.syn ws cwd r)
  | [], _, _ => rfl
  | wd :: ws, cwd, r => by unfold aWords flatWords; simp [word_flat wd cwd r, words_flat ws cwd r]

theorem optWord_flat : ∀ (wd : Option Word) (cwd : String) (r : Bool),
    S (aOptWord w rec h wd cwd r) = L w rec h (flatOptWord w.syn wd cwd r)
  | none, _, _ => rfl
  | some wd, cwd, r => word_flat wd cwd r

theorem redirects_flat : ∀ (rs : List Redir) (cwd : String) (r : Bool),
    S (aRedirects w rec h rs cwd r) = L w rec h (flatRedirects w.syn rs cwd r)
  | [], _, _ => rfl
  | rd :: rs, cwd, r => by
    have ih := redirects_flat rs cwd r
    unfold aRedirects flatRedirects
    cases rd with
    | heredoc quoted content => cases quoted <;> simp [ih, atomDecisions]
    | redirect op tgt => cases tgt <;> simp [ih, word_flat _ cwd r, L_redir_unless]
    | other _ => simpa using ih

theorem casePats_flat : ∀ (ps : List CasePat) (cwd : String) (r : Bool),
    S (aCasePats w rec h ps cwd r) = L w rec h (flatCasePats w.syn ps cwd r)
  | [], _, _ => rfl
  | .mk pat body :: ps, cwd, r => by
    unfold aCasePats flatCasePats; simp [atomDecisions, optNode_flat body cwd r, casePats_flat ps cwd r]

theorem cond_flat : ∀ (c : Cond) (cwd : String) (r : Bool),
    S (aCond w rec h c cwd r) = L w rec h (flatCond w.syn c cwd r)
  | .unary _ o, cwd, r => condOperand_flat false o cwd r
  | .binary op l r', cwd, r => by
    unfold aCond flatCond; simp [condOperand_flat false l cwd r, condOperand_flat (op == "=~") r' cwd r]
  | .and l r', cwd, r => by unfold aCond flatCond; simp [cond_flat l cwd r, cond_flat r' cwd r]
  | .or l r', cwd, r => by unfold aCond flatCond; simp [cond_flat l cwd r, cond_flat r' cwd r]
  | .not o, cwd, r => cond_flat o cwd r
  | .paren i, cwd, r => cond_flat i cwd r
  | .other _, _, _ => rfl

theorem optCond_flat : ∀ (c : Option Cond) (cwd : String) (r : Bool),
    S (aOptCond w rec h c cwd r) = L w rec h (flatOptCond w.syn c cwd r)
  | none, _, _ => rfl
  | some c, cwd, r => cond_flat c cwd r

theorem arith_flat : ∀ (e : Arith) (cwd : String) (r : Bool),
    S (aArith w rec h e cwd r) = L w rec h (flatArith w.syn e cwd r)
  | .cmdsub cmd, cwd, r => by unfold aArith flatArith; simp [node_flat cmd cwd r]
  | .node _ attrs, cwd, r => by
    unfold aArith flatArith
    simp only [World.syn_arithWalked]
    induction w.arithWalked with  -- abstracts every occurrence of `w.arithWalked`
    | nil => rfl
    | cons a as ih => simp only [List.flatMap_cons, S_append, L_append, ih, arithAttrs_flat attrs cwd r a]

theorem arithAttrs_flat : ∀ (attrs : List (String × AVal)) (cwd : String) (r : Bool) (a : String),
    S ((((aArithAttrs w rec h attrs cwd r).find? (fun kv => kv.1 == a)).map (·.2)).getD [])
      = L w rec h ((((flatArithAttrs w.syn attrs cwd r).find? (fun kv => kv.1 == a)).map (·.2)).getD [])
  | [], _, _, _ => rfl
  | (k, v) :: rest, cwd, r, a => by
    unfold aArithAttrs flatArithAttrs
    rw [List.find?_cons, List.find?_cons]
    cases k == a with
    | false => exact arithAttrs_flat rest cwd r a
    | true =>
      cases v with
      | one x => exact arith_flat x cwd r
      | many _ => rfl
      | str _ => rfl

theorem optArith_flat : ∀ (e : Option Arith) (cwd : String) (r : Bool),
    S (aOptArith w rec h e cwd r) = L w rec h (flatOptArith w.syn e cwd r)
  | none, _, _ => rfl
  | some e, cwd, r => arith_flat e cwd r

end

/-- R1: the verdict of a tree is the join of the verdicts of its atoms -/
theorem verdict_eq_leaves (n : Node) (cwd : String) (r : Bool) :
    (aNode w rec h n cwd r).action = S (leaves w rec h n cwd r) :=
  node_flat w rec h n cwd r

theorem decision_le_verdict {n : Node} {cwd : String} {r : Bool} {a : Atom} {d : Decision}
    (ha : a ∈ flat w.syn n cwd r) (hd : d ∈ atomDecisions w rec h a) :
    d.action ≤ (aNode w rec h n cwd r).action :=
  verdict_eq_leaves w rec h n cwd r ▸ le_supList (List.mem_map_of_mem (List.mem_flatMap.2 ⟨a, ha, hd⟩))

theorem allow_iff_atoms (n : Node) (cwd : String) (r : Bool) :
    (aNode w rec h n cwd r).action = .allow
      ↔ ∀ x ∈ flat w.syn n cwd r, ∀ d ∈ atomDecisions w rec h x, d.action = .allow := by
  rw [verdict_eq_leaves, S_eq_allow, leaves]
  simp only [List.mem_flatMap, forall_exists_index, and_imp]
  exact ⟨fun ha x hx d hd => ha d x hx hd, fun ha d x hx hd => ha x hx d hd⟩

end
end Dippy
