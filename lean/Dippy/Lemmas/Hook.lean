/-
The hook model seen from outside, for C06, C12 and C19: what a host reads out of stdout, and that every
run prints `{}` or renders a result that comes with the facts entitling it (`Sourced`, `hook_inv`).
-/
import Dippy.Model.Hook

namespace Dippy

/-- the decision a host reads out of one stdout line -/
def decisionOfJson : PJson → Option String
  | .obj [("hookSpecificOutput", .obj [("hookEventName", _), ("permissionDecision", .str d), ("permissionDecisionReason", _)])] => some d
  | .obj [("decision", .str d), ("reason", _)] => some d
  | .obj [("permission", .str d), ("user_message", _), ("agent_message", _), ("userMessage", _), ("agentMessage", _)] => some d
  | _ => none

def decisionOfOut : List Out → Option String
  | [.json j] => decisionOfJson j
  | _ => none

/-- the reason text a host shows -/
def reasonOfJson : PJson → Option String
  | .obj [("hookSpecificOutput", .obj [("hookEventName", _), ("permissionDecision", _), ("permissionDecisionReason", .str r)])] => some r
  | .obj [("decision", _), ("reason", .str r)] => some r
  | .obj [("permission", _), ("user_message", .str r), ("agent_message", _), ("userMessage", _), ("agentMessage", _)] => some r
  | _ => none

def reasonOfOut : List Out → Option String
  | [.json j] => reasonOfJson j
  | _ => none

/-- anything but the string `PostToolUse` counts as a pre-execution event -/
def isPostEvent : Stdin → Bool
  | .value j =>
    (match j.get "hook_event_name" (.str "PreToolUse") with
     | some e => e.isStr "PostToolUse"
     | none => false)
  | _ => false

theorem decisionOf_envelope (m : Mode) (a : Action) (r : String) :
    decisionOfJson (envelope m a r) = some a.toString := by
  cases m <;> simp only [envelope, decisionOfJson]

theorem reasonOf_envelope (m : Mode) (a : Action) (r : String) :
    reasonOfJson (envelope m a r) = some (duck r) := by
  cases m <;> simp only [envelope, reasonOfJson]

/-- the verdict a result carries, independent of the host -/
def Result.verdict : Result → Option (Action × String)
  | .defer => none
  | .configError msg => some (.ask, "config error: " ++ msg)
  | .bypass pm => some (.allow, pm)
  | .mcp mt => some (mt.decision, mcpReason mt)
  | .analysis d _ _ _ => some (d.action, d.reason)
  | .feedback _ => none
  | .silent => none

theorem decisionOf_render (m : Mode) (r : Result) :
    decisionOfOut (render m r) = r.verdict.map (fun v => v.1.toString) := by
  cases r <;> simp only [render, decisionOfOut, Result.verdict, decisionOf_envelope, Option.map]
  · rfl  -- defer
  · rename_i msg; cases Py.truthy msg <;> rfl  -- feedback

theorem reasonOf_render (m : Mode) (r : Result) :
    reasonOfOut (render m r) = r.verdict.map (fun v => duck v.2) := by
  cases r <;> simp only [render, reasonOfOut, Result.verdict, reasonOf_envelope, Option.map]
  · rfl  -- defer
  · rename_i msg; cases Py.truthy msg <;> rfl  -- feedback

theorem Action.eq_allow_of_toString {a : Action} (h : a.toString = "allow") : a = .allow := by
  revert h; cases a <;> decide

/-! ### where a result comes from -/

/-- the results `hookBody` can return for an event (`true` = PostToolUse) in directory `cwd`, each
    with what must have happened for it; a verdict needs its log write to have gone through -/
inductive Sourced (env : HookEnv) (cwd : String) : Bool → Result → Prop
  | defer {p} : Sourced env cwd p .defer
  | silent {msg} : env.loadConfig cwd = .configError msg → Sourced env cwd true .silent
  | configError {msg} : env.loadConfig cwd = .configError msg → Sourced env cwd false (.configError msg)
  | feedback (msg) : Sourced env cwd true (.feedback msg)
  | bypass (pm) : env.logOk = true → Sourced env cwd false (.bypass pm)
  | mcp {cfg tool mt} : env.loadConfig cwd = .ok cfg → env.logOk = true → matchMcp cfg tool = some mt →
      Sourced env cwd false (.mcp mt)
  | analysis {cfg s d} : env.loadConfig cwd = .ok cfg → env.logOk = true → env.analyze s cfg cwd = some d →
      Sourced env cwd false (.analysis d s cfg cwd)

section
variable {env : HookEnv} {j : PJson} {cfg : Config} {cwd : String} {p : Bool} {r : Result}

theorem Sourced.pre_of_verdict {v : Action × String} (hs : Sourced env cwd p r) (hv : r.verdict = some v) :
    p = false := by
  cases hs with
  | defer | silent | feedback => cases hv
  | _ => rfl

theorem bypassOf_mode {pm : String} (h : bypassOf env j p = some (some pm)) : p = false := by
  cases p with
  | true => cases h
  | false => rfl

theorem shellPath_sound {c : PJson} (hl : env.loadConfig cwd = .ok cfg)
    (h : shellPath env j cfg cwd p c = some r) : Sourced env cwd p r := by
  revert h
  fun_cases shellPath env j cfg cwd p c with
  | case2 =>  -- bypass, logged
    rename_i pm hb hlog
    rintro ⟨⟩
    cases bypassOf_mode hb
    exact .bypass pm hlog
  | case4 _ hp =>  -- post: a string
    rintro ⟨⟩
    subst hp
    exact .feedback _
  | case6 _ _ hp =>  -- post: a falsy non-string
    rintro ⟨⟩
    subst hp
    exact .feedback _
  | case7 =>  -- pre: analysed and logged
    rename_i hp _ _ ha hlog
    rintro ⟨⟩
    rw [(Bool.not_eq_true _).mp hp]
    exact .analysis hl hlog ha
  | _ => nofun

theorem mcpPath_sound {tool : String} (hl : env.loadConfig cwd = .ok cfg)
    (h : mcpPath env j cfg p tool = some r) : Sourced env cwd p r := by
  revert h
  fun_cases mcpPath env j cfg p tool with
  | case2 pm hb hlog =>  -- bypass, logged
    rintro ⟨⟩
    cases bypassOf_mode hb
    exact .bypass pm hlog
  | case4 _ hp =>  -- post
    rintro ⟨⟩
    subst hp
    exact .feedback _
  | case5 =>  -- pre: no rule matches
    rintro ⟨⟩
    exact .defer
  | case6 =>  -- pre: a rule, logged
    rename_i hp _ hm hlog
    rintro ⟨⟩
    rw [(Bool.not_eq_true _).mp hp]
    exact .mcp hl hlog hm
  | _ => nofun

theorem route_tool {m : Mode} {tool : String} {ti : PJson} (hm : m ≠ .cursor)
    (ht : j.get "tool_name" (.str "") = some (.str tool)) (hti : j.get "tool_input" (.obj []) = some ti) :
    route env m j cfg cwd p =
      if Py.startsWith tool "mcp__" then mcpPath env j cfg p tool
      else if !env.shellToolNames.contains tool then some .defer
      else (ti.get "command" (.str "")).bind (shellPath env j cfg cwd p) := by
  cases m with
  | cursor => exact absurd rfl hm
  | claude => simp only [route, ht, hti]; cases ti.get "command" (.str "") <;> rfl
  | gemini => simp only [route, ht, hti]; cases ti.get "command" (.str "") <;> rfl

theorem route_sound {m : Mode} (hl : env.loadConfig cwd = .ok cfg)
    (h : route env m j cfg cwd p = some r) : Sourced env cwd p r := by
  revert h
  fun_cases route env m j cfg cwd p with
  | case1 => exact shellPath_sound hl  -- Cursor
  | case3 => exact mcpPath_sound hl  -- an MCP tool
  | case4 =>  -- neither MCP nor shell
    rintro ⟨⟩
    exact .defer
  | case5 => exact shellPath_sound hl  -- a shell tool
  | _ => nofun

theorem hookBody_sound {m : Mode} (h : hookBody env j = some (m, r)) :
    ∃ cwd, hookCwd env j = some cwd ∧ Sourced env cwd (isPostEvent (.value j)) r := by
  have hp : ∀ {ev}, j.get "hook_event_name" (.str "PreToolUse") = some ev →
      isPostEvent (.value j) = ev.isStr "PostToolUse" := fun hev => by simp only [isPostEvent, hev]
  revert h
  fun_cases hookBody env j with
  | case5 =>  -- config error, post
    rename_i cwd hc ev hev _ _ hl hpost
    rintro ⟨⟩
    rw [hp hev, show ev.isStr "PostToolUse" = true from hpost]
    exact ⟨cwd, hc, .silent hl⟩
  | case6 =>  -- config error, pre
    rename_i cwd hc ev hev _ _ hl hpre
    rintro ⟨⟩
    rw [hp hev, show ev.isStr "PostToolUse" = false from (Bool.not_eq_true _).mp hpre]
    exact ⟨cwd, hc, .configError hl⟩
  | case7 =>  -- config loaded
    rename_i cwd hc ev hev _ cfg hl
    intro h
    obtain ⟨r', hr, hmr⟩ := Option.map_eq_some_iff.mp h
    cases hmr
    rw [hp hev]
    exact ⟨cwd, hc, route_sound hl hr⟩
  | _ => nofun

end

theorem hook_inv (env : HookEnv) (stdin : Stdin) :
    hook env stdin = [.json (.obj [])] ∨
      ∃ j m r cwd, stdin = .value j ∧ hookBody env j = some (m, r) ∧ hookCwd env j = some cwd
        ∧ Sourced env cwd (isPostEvent stdin) r ∧ hook env stdin = render m r := by
  cases stdin with
  | undecodable => exact .inl rfl
  | notJson => exact .inl rfl
  | value j =>
    cases hb : hookBody env j with
    | none => left; simp only [hook, hb]
    | some mr =>
      obtain ⟨m, r⟩ := mr
      obtain ⟨cwd, hc, hs⟩ := hookBody_sound hb
      exact .inr ⟨j, m, r, cwd, rfl, hb, hc, hs, by simp only [hook, hb]⟩

end Dippy
