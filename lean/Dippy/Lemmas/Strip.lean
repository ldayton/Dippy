/-
Lemmas about Python's `str.strip(chars)` as modelled in `Model/PyStr.lean`: what is removed is a prefix and a suffix
made of the given characters only, what is left neither begins nor ends with one, and stripping twice is stripping once.
`lstripL` is `List.dropWhile`, `rstripL` the same on the reversed list; the facts come from the library's.
-/
import Dippy.Model.PyStr

namespace Dippy.Py

theorem isSpace_space : isSpace ' ' = true := by decide +kernel
theorem isSpace_quote : isSpace '"' = false := by decide +kernel
theorem isSpace_backslash : isSpace '\\' = false := by decide +kernel

theorem lstripL_eq (p : Char → Bool) (l : List Char) : lstripL p l = l.dropWhile p := by
  induction l with
  | nil => rfl
  | cons c t ih => rw [lstripL, List.dropWhile_cons, ih]

theorem lstripL_head (p : Char → Bool) (l : List Char) (c : Char) (h : (lstripL p l).head? = some c) :
    p c = false := by
  have := List.head?_dropWhile_not p l
  rw [← lstripL_eq, h] at this
  exact this

theorem rstripL_last (p : Char → Bool) (l : List Char) (c : Char) (h : (rstripL p l).getLast? = some c) :
    p c = false :=
  lstripL_head p l.reverse c (by rw [← List.getLast?_reverse]; exact h)

theorem lstripL_id (p : Char → Bool) (l : List Char) (h : ∀ c, l.head? = some c → p c = false) :
    lstripL p l = l := by
  cases l with
  | nil => rfl
  | cons d t => rw [lstripL, h d rfl]; rfl

theorem rstripL_id (p : Char → Bool) (l : List Char) (h : ∀ c, l.getLast? = some c → p c = false) :
    rstripL p l = l := by
  unfold rstripL
  rw [lstripL_id p l.reverse (by rw [List.head?_reverse]; exact h), List.reverse_reverse]

theorem stripL_id (p : Char → Bool) (l : List Char) (hh : ∀ c, l.head? = some c → p c = false)
    (hl : ∀ c, l.getLast? = some c → p c = false) : stripL p l = l := by
  unfold stripL
  rw [lstripL_id p l hh, rstripL_id p l hl]

theorem lstripL_split (p : Char → Bool) (l : List Char) :
    ∃ pre, l = pre ++ lstripL p l ∧ ∀ c ∈ pre, p c = true :=
  ⟨l.takeWhile p, by rw [lstripL_eq, List.takeWhile_append_dropWhile], List.all_eq_true.mp List.all_takeWhile⟩

theorem rstripL_split (p : Char → Bool) (l : List Char) :
    ∃ suf, l = rstripL p l ++ suf ∧ ∀ c ∈ suf, p c = true := by
  obtain ⟨pre, h1, h2⟩ := lstripL_split p l.reverse
  refine ⟨pre.reverse, ?_, fun c hc => h2 c (List.mem_reverse.mp hc)⟩
  rw [rstripL, ← List.reverse_append, ← h1, List.reverse_reverse]

theorem stripL_split (p : Char → Bool) (l : List Char) :
    ∃ pre suf, l = pre ++ stripL p l ++ suf ∧ (∀ c ∈ pre, p c = true) ∧ (∀ c ∈ suf, p c = true) := by
  obtain ⟨pre, h1, h2⟩ := lstripL_split p l
  obtain ⟨suf, h3, h4⟩ := rstripL_split p (lstripL p l)
  refine ⟨pre, suf, ?_, h2, h4⟩
  unfold stripL
  rw [List.append_assoc, ← h3]
  exact h1

theorem stripL_last (p : Char → Bool) (l : List Char) (c : Char) (h : (stripL p l).getLast? = some c) : p c = false :=
  rstripL_last p _ c h

/-- what is left begins as `lstripL p l` does, being a prefix of it -/
theorem stripL_head (p : Char → Bool) (l : List Char) (c : Char) (h : (stripL p l).head? = some c) : p c = false := by
  obtain ⟨suf, h1, _⟩ := rstripL_split p (lstripL p l)
  apply lstripL_head p l c
  rw [h1, List.head?_append]
  unfold stripL at h
  rw [h]
  rfl

theorem stripL_idem (p : Char → Bool) (l : List Char) : stripL p (stripL p l) = stripL p l :=
  stripL_id p _ (stripL_head p l) (stripL_last p l)

/-! ### padding: stripped characters added at the two ends change nothing -/

theorem lstripL_append_left (p : Char → Bool) (pre l : List Char) (h : ∀ c ∈ pre, p c = true) :
    lstripL p (pre ++ l) = lstripL p l := by
  rw [lstripL_eq, lstripL_eq, List.dropWhile_append_of_pos h]

theorem rstripL_append_right (p : Char → Bool) (l suf : List Char) (h : ∀ c ∈ suf, p c = true) :
    rstripL p (l ++ suf) = rstripL p l := by
  unfold rstripL
  rw [List.reverse_append, lstripL_append_left p suf.reverse l.reverse (fun c hc => h c (List.mem_reverse.mp hc))]

theorem stripL_all (p : Char → Bool) (l : List Char) (h : ∀ c ∈ l, p c = true) : stripL p l = [] := by
  have := lstripL_append_left p l [] h
  rw [List.append_nil] at this
  unfold stripL
  rw [this]
  rfl

theorem stripL_append_right (p : Char → Bool) (l suf : List Char) (h : ∀ c ∈ suf, p c = true) :
    stripL p (l ++ suf) = stripL p l := by
  -- by induction: the left strip may eat all of `l` and then go on into `suf`
  induction l with
  | nil => rw [List.nil_append, stripL_all p suf h]; rfl
  | cons c t ih =>
    unfold stripL at ih ⊢
    cases hc : p c with
    | true => simpa only [List.cons_append, lstripL, hc, if_true] using ih
    | false =>
      simp only [List.cons_append, lstripL, hc, Bool.false_eq_true, if_false]
      exact rstripL_append_right p (c :: t) suf h

theorem stripL_pad (p : Char → Bool) (pre l suf : List Char) (h1 : ∀ c ∈ pre, p c = true) (h2 : ∀ c ∈ suf, p c = true) :
    stripL p (pre ++ l ++ suf) = stripL p l := by
  rw [stripL_append_right p _ suf h2]
  unfold stripL
  rw [lstripL_append_left p pre l h1]

theorem strip_idem (s : String) : strip (strip s) = strip s := by
  simp only [strip, String.toList_ofList]
  rw [stripL_idem]

theorem strip_pad (pre suf : List Char) (s : String) (h1 : ∀ c ∈ pre, isSpace c = true)
    (h2 : ∀ c ∈ suf, isSpace c = true) :
    strip (String.ofList (pre ++ s.toList ++ suf)) = strip s := by
  simp only [strip, String.toList_ofList]
  rw [stripL_pad isSpace pre s.toList suf h1 h2]

end Dippy.Py
