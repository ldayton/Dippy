/-
Lemmas about the launcher models of Model/Wrappers.lean.  The skip loops have one shape – a `skip` flag, then: stop
here, stop after this word, or go on after this word – so "what is left is a suffix" is read off `List.suffix_cons_iff`
in every case of the loop's own induction principle.
-/
import Dippy.Model.Wrappers

namespace Dippy.W
open Generated.H

theorem shellTakesValue_option (t : String) (h : shellTakesValue t = true) :
    (sw t "-" = true ∨ sw t "+" = true) ∧ t ≠ "--" := by
  simp only [shellTakesValue, Bool.or_eq_true] at h
  rcases h with h | h
  · -- a tabled long option
    have hall : shell__OPTIONS_WITH_VALUE.all (fun t => sw t "-" && !(t == "--")) = true := by decide +kernel
    have := List.all_eq_true.mp hall t (by simpa using h)
    simp only [Bool.and_eq_true, Bool.not_eq_true', beq_eq_false_iff_ne, ne_eq] at this
    exact ⟨Or.inl this.1, this.2⟩
  · -- a cluster: `-` or `+`, then no `-`
    split at h
    · rename_i c0 c1 rest ht
      simp only [Bool.and_eq_true, Bool.or_eq_true, beq_iff_eq, bne_iff_ne, ne_eq] at h
      refine ⟨by rcases h.1.1 with rfl | rfl <;> simp [sw, Py.startsWith, ht], ?_⟩
      rintro rfl
      simp at ht
      exact h.1.2 ht.2.1.symm
    · cases h  -- fewer than two characters

theorem shellTakesValue_of_not_option (t : String) (h1 : sw t "-" = false) (h2 : sw t "+" = false) :
    shellTakesValue t = false := by
  cases h : shellTakesValue t with
  | false => rfl
  | true => simpa [h1, h2] using (shellTakesValue_option t h).1

theorem clusterFind_mem (fwa : List String) (cs : List Char) :
    ∀ c att, clusterFind fwa cs = some (c, att) → c ∈ cs := by
  fun_induction clusterFind fwa cs <;> simp_all

theorem xargsSkip_suffix (b : Bool) (l : List String) : xargsSkip b l <:+ l := by
  fun_induction xargsSkip b l <;> simp [List.suffix_cons_iff, *]

theorem uvRunSkip_suffix (b : Bool) (l : List String) : uvRunSkip b l <:+ l := by
  fun_induction uvRunSkip b l <;> simp [List.suffix_cons_iff, *]

theorem scriptSkip_suffix (b : Bool) (l seen : List String) :
    ∀ seen' rem, scriptSkip b l seen = some (seen', rem) → rem <:+ l := by
  fun_induction scriptSkip b l seen <;> simp_all [List.suffix_cons_iff]

theorem dockerExecInner_suffix (b : Bool) (l : List String) :
    ∀ inner, dockerExecInner b l = some inner → inner ≠ [] ∧ inner <:+ l := by
  -- an arm that answers gives `rest` or `rest.drop 1`, and only after testing that it is not empty
  fun_induction dockerExecInner b l <;> simp_all [List.suffix_cons_iff, List.tail_suffix]

theorem kubectlExecInner_spec (l : List String) :
    ∀ inner, kubectlExecInner l = some inner → inner ≠ [] ∧ ∃ pre, l = pre ++ "--" :: inner ∧ "--" ∉ pre := by
  fun_induction kubectlExecInner l with
  | case1 => simp  -- no words
  | case2 => simp  -- `--`, nothing after
  | case3 =>  -- `--`, then words
    rename_i ht hne
    rintro _ ⟨rfl⟩
    exact ⟨by simpa using hne, [], by simpa using ht, by simp⟩
  | case4 t =>  -- another word
    rename_i ht ih
    intro inner hi
    obtain ⟨hne, pre, hl, hp⟩ := ih inner hi
    exact ⟨hne, t :: pre, by simp [hl], by simpa [hp] using fun e => ht (by simp [← e])⟩

theorem xargsUnsafe_asks (l : List String) : ∀ c, xargsUnsafe l = some c → c.action = "ask" := by
  -- the answer of the remaining words, or one built by `ask` (`simp_all` would rework every branch condition)
  fun_induction xargsUnsafe l <;> first | assumption | simp [ask]

theorem envInner_delegates (l : List String) (hd : (envInner l).action = "delegate") :
    l ≠ [] ∧ (envInner l).innerCommand = some (bashJoin l) := by
  cases l <;> simp_all [envInner, allow, delegate]

end Dippy.W
