/-
R4: `parse_config` is a fold of independent per-line results; each field of the result is a function of
that field's line results alone; a skipped line is the identity; parsing a concatenation is parsing the
second text on top of the first.
-/
import Dippy.Model.Config

namespace Dippy

def LineResult.ruleOf : LineResult → Option Rule
  | .rule r => some r
  | _ => none
def LineResult.redirectOf : LineResult → Option Rule
  | .redirect r => some r
  | _ => none
def LineResult.afterOf : LineResult → Option AfterRule
  | .after r => some r
  | _ => none
def LineResult.mcpOf : LineResult → Option Rule
  | .mcp r => some r
  | _ => none
def LineResult.afterMcpOf : LineResult → Option AfterRule
  | .afterMcp r => some r
  | _ => none
def LineResult.aliasOf : LineResult → Option (String × String)
  | .alias s t => some (s, t)
  | _ => none
def LineResult.logOf : LineResult → Option String
  | .setLog p => some p
  | _ => none
def LineResult.isLogFull : LineResult → Bool
  | .setLogFull => true
  | _ => false

def applyAll (c : Config) (rs : List LineResult) : Config := rs.foldl Config.apply c

theorem parseLines_eq (e : ParseEnv) (lines : List String) (c : Config) :
    parseLines e lines c = applyAll c (lines.map (parseLine e)) := by
  unfold parseLines applyAll
  rw [List.foldl_map]

theorem applyAll_append (c : Config) (a b : List LineResult) :
    applyAll c (a ++ b) = applyAll (applyAll c a) b := by
  unfold applyAll; rw [List.foldl_append]

theorem applyAll_cons (c : Config) (r : LineResult) (rs : List LineResult) :
    applyAll c (r :: rs) = applyAll (c.apply r) rs := rfl

theorem parseLines_append (e : ParseEnv) (a b : List String) (c : Config) :
    parseLines e (a ++ b) c = parseLines e b (parseLines e a c) := by
  unfold parseLines; rw [List.foldl_append]

theorem applyAll_list {β : Type} (get : Config → List β) (pick : LineResult → Option β)
    (h : ∀ c r, get (c.apply r) = match pick r with | some x => get c ++ [x] | none => get c) (c : Config)
    (rs : List LineResult) :
    get (applyAll c rs) = get c ++ rs.filterMap pick := by
  induction rs generalizing c with
  | nil => simp [applyAll]
  | cons r rs ih =>
    rw [applyAll_cons, ih, h, List.filterMap_cons]
    cases pick r <;> simp

theorem applyAll_rules (c : Config) (rs : List LineResult) :
    (applyAll c rs).rules = c.rules ++ rs.filterMap LineResult.ruleOf :=
  applyAll_list (·.rules) _ (fun _ r => by cases r <;> rfl) c rs

theorem applyAll_redirectRules (c : Config) (rs : List LineResult) :
    (applyAll c rs).redirectRules = c.redirectRules ++ rs.filterMap LineResult.redirectOf :=
  applyAll_list (·.redirectRules) _ (fun _ r => by cases r <;> rfl) c rs

theorem applyAll_afterRules (c : Config) (rs : List LineResult) :
    (applyAll c rs).afterRules = c.afterRules ++ rs.filterMap LineResult.afterOf :=
  applyAll_list (·.afterRules) _ (fun _ r => by cases r <;> rfl) c rs

theorem applyAll_mcpRules (c : Config) (rs : List LineResult) :
    (applyAll c rs).mcpRules = c.mcpRules ++ rs.filterMap LineResult.mcpOf :=
  applyAll_list (·.mcpRules) _ (fun _ r => by cases r <;> rfl) c rs

theorem applyAll_afterMcpRules (c : Config) (rs : List LineResult) :
    (applyAll c rs).afterMcpRules = c.afterMcpRules ++ rs.filterMap LineResult.afterMcpOf :=
  applyAll_list (·.afterMcpRules) _ (fun _ r => by cases r <;> rfl) c rs

theorem applyAll_aliases (c : Config) (rs : List LineResult) :
    (applyAll c rs).aliases
      = (rs.filterMap LineResult.aliasOf).foldl (fun acc kv => aliasInsert acc kv.1 kv.2) c.aliases := by
  induction rs generalizing c with
  | nil => simp [applyAll]
  | cons r rs ih =>
    rw [applyAll_cons, ih]
    cases r <;> rfl

theorem applyAll_log (c : Config) (rs : List LineResult) :
    (applyAll c rs).log = ((rs.filterMap LineResult.logOf).getLast?).or c.log := by
  induction rs generalizing c with
  | nil => rfl
  | cons r rs ih =>
    rw [applyAll_cons, ih]
    cases r with
    | setLog p =>
      show _ = ((p :: rs.filterMap LineResult.logOf).getLast?).or c.log
      rw [List.getLast?_cons]
      cases (rs.filterMap LineResult.logOf).getLast? <;> rfl
    | _ => rfl

theorem applyAll_logFull (c : Config) (rs : List LineResult) :
    (applyAll c rs).logFull = (c.logFull || rs.any LineResult.isLogFull) := by
  induction rs generalizing c with
  | nil => simp [applyAll]
  | cons r rs ih =>
    rw [applyAll_cons, ih]
    cases r <;> simp [Config.apply, LineResult.isLogFull]

theorem filterMap_parse_filter {α : Type} (e : ParseEnv) (f : LineResult → Option α) (keep : String → Bool)
    (h : ∀ l, keep l = false → f (parseLine e l) = none) (lines : List String) :
    (lines.map (parseLine e)).filterMap f = ((lines.filter keep).map (parseLine e)).filterMap f := by
  rw [List.filterMap_map, List.filterMap_map, List.filterMap_filter]
  refine congrArg (List.filterMap · lines) (funext fun l => ?_)
  cases hk : keep l with
  | true => rfl
  | false => exact h l hk

/-- a line whose result is `skip` (blank, comment, malformed, unknown directive) is the identity -/
theorem skip_line_identity (e : ParseEnv) (a b : List String) (l : String) (c : Config)
    (h : parseLine e l = .skip) :
    parseLines e (a ++ l :: b) c = parseLines e (a ++ b) c := by
  rw [parseLines_append, parseLines_append]
  unfold parseLines
  rw [List.foldl_cons, h]
  rfl

end Dippy
