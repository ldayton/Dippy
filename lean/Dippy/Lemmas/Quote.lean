/-
Lemmas for the round trip `shellWords (bashJoin ts) = ts`: `bash_quote t` and the first token's variant both read as `t`
(`Reads`; they are `t` itself when it is safe, else `'…'` around the escaped `t`), and pieces that read as `ts`, joined
by blanks, lex to `ts`.
-/
import Dippy.Model.Quote

namespace Dippy

/-- a sound `alnum`: it accepts no blank, quote or shell metacharacter -/
def SoundAlnum (alnum : Char → Bool) : Prop := ∀ c, alnum c = true → shellSpecial c = false

theorem inRanges_below (rs : List (Nat × Nat)) (n : Nat) (c : Char)
    (hrs : rs.all (fun r => n ≤ r.1) = true) (hc : c.toNat < n) : Py.inRanges rs c = false := by
  rw [Py.inRanges, List.any_eq_false]
  intro r hr
  have := List.all_eq_true.mp hrs r hr
  simp only [decide_eq_true_eq] at this
  simp only [Bool.and_eq_true, decide_eq_true_eq, not_and]
  omega

theorem safeExtra_not_special (c : Char) (h : safeExtra.contains c = true) : shellSpecial c = false := by
  have : safeExtra.all (fun c => !shellSpecial c) = true := by decide +kernel
  simpa using List.all_eq_true.mp this c (by simpa using h)

theorem safe_plain {alnum : Char → Bool} (hs : SoundAlnum alnum) {c : Char} (h : isSafeChar alnum c = true) :
    isBlank c = false ∧ c ≠ '\'' ∧ c ≠ '"' ∧ isMetaChar c = false := by
  have : shellSpecial c = false := by
    rcases Bool.or_eq_true .. ▸ h with ha | he
    · exact hs c ha
    · exact safeExtra_not_special c he
  simp only [shellSpecial, Bool.or_eq_false_iff, decide_eq_false_iff_not] at this
  exact ⟨this.1.1.1, this.1.1.2, this.1.2, this.2⟩

/-- the text `q`, wherever it starts a word, reads as the word `t` -/
def Reads (q t : List Char) : Prop := ∀ rest x, lexWords .out x (q ++ rest) = lexWords .word t.reverse rest

theorem lex_word_safe {alnum : Char → Bool} (hs : SoundAlnum alnum) (s rest cur : List Char)
    (hall : s.all (isSafeChar alnum) = true) :
    lexWords .word cur (s ++ rest) = lexWords .word (s.reverse ++ cur) rest := by
  induction s generalizing cur with
  | nil => simp
  | cons c s ih =>
    simp only [List.all_cons, Bool.and_eq_true] at hall
    simp [lexWords, safe_plain hs hall.1, ih _ hall.2]

theorem reads_safe {alnum : Char → Bool} (hs : SoundAlnum alnum) (t : List Char) (hne : t ≠ [])
    (hall : t.all (isSafeChar alnum) = true) : Reads t t := by
  intro rest x
  obtain ⟨c, s, rfl⟩ := List.exists_cons_of_ne_nil hne
  simp only [List.all_cons, Bool.and_eq_true] at hall
  simp [lexWords, safe_plain hs hall.1, lex_word_safe hs _ _ _ hall.2]

theorem lex_sq_escape (s rest cur : List Char) :
    lexWords .sq cur (escapeSq s ++ '\'' :: rest) = lexWords .word (s.reverse ++ cur) rest := by
  induction s generalizing cur with
  | nil => simp [escapeSq, lexWords]
  | cons c s ih =>
    by_cases hc : c = '\''
    · subst hc
      -- `'"'"'`: close the quote, a double-quoted quote, open again
      simp [escapeSq, lexWords, isBlank, ih]
    · simp [escapeSq, hc, lexWords, ih]

theorem reads_sq (t : List Char) : Reads ('\'' :: (escapeSq t ++ ['\''])) t := by
  intro rest x
  simpa [lexWords, isBlank] using lex_sq_escape t rest []

theorem escapeSq_length (s : List Char) : s.length ≤ (escapeSq s).length := by
  fun_induction escapeSq s <;> simp <;> omega

theorem escapeSq_no_quote (s : List Char) (h : '\'' ∉ s) : escapeSq s = s := by
  induction s with
  | nil => rfl
  | cons c s ih =>
    simp only [List.mem_cons, not_or] at h
    simp [escapeSq, Ne.symm h.1, ih h.2]

theorem bashQuoteL_cases (alnum : Char → Bool) (t : List Char) :
    (bashQuoteL alnum t = t ∧ t ≠ [] ∧ t.all (isSafeChar alnum) = true)
      ∨ (bashQuoteL alnum t = '\'' :: (escapeSq t ++ ['\'']) ∧ bashQuoteL alnum t ≠ t) := by
  -- the quoted form is longer than the word
  have hlen : '\'' :: (escapeSq t ++ ['\'']) ≠ t := fun h => by
    have h1 := congrArg List.length h
    have h2 := escapeSq_length t
    simp only [List.length_cons, List.length_append, List.length_nil] at h1
    omega
  unfold bashQuoteL
  cases t with
  | nil => exact .inr ⟨rfl, by simp⟩
  | cons c s =>
    by_cases hall : (c :: s).all (isSafeChar alnum) = true
    · exact .inl ⟨by simp [hall], by simp, hall⟩
    · exact .inr ⟨by simp [hall], by simpa [hall] using hlen⟩

theorem quoteFirstL_cases {alnum : Char → Bool} (hs : SoundAlnum alnum) (t : List Char) :
    (quoteFirstL alnum t = t ∧ t ≠ [] ∧ t.all (isSafeChar alnum) = true ∧ isAssignWord (String.ofList t) = false)
      ∨ quoteFirstL alnum t = '\'' :: (escapeSq t ++ ['\'']) := by
  unfold quoteFirstL
  rcases bashQuoteL_cases alnum t with ⟨hq, hne, hall⟩ | ⟨hq, hneq⟩
  · cases ha : isAssignWord (String.ofList t) with
    | false => exact .inl ⟨by simp [hq], hne, hall, rfl⟩
    | true =>
      -- a safe word holds no single quote, so quoting it needs no escape
      have hnq : '\'' ∉ t := fun hm => (safe_plain hs (List.all_eq_true.mp hall _ hm)).2.1 rfl
      exact .inr (by simp [hq, escapeSq_no_quote t hnq])
  · exact .inr (by rw [hq] at hneq ⊢; simp [hneq])

theorem reads_quote {alnum : Char → Bool} (hs : SoundAlnum alnum) (t : List Char) : Reads (bashQuoteL alnum t) t := by
  rcases bashQuoteL_cases alnum t with ⟨hq, hne, hall⟩ | ⟨hq, _⟩ <;> rw [hq]
  · exact reads_safe hs t hne hall
  · exact reads_sq t

theorem reads_quoteFirst {alnum : Char → Bool} (hs : SoundAlnum alnum) (t : List Char) :
    Reads (quoteFirstL alnum t) t := by
  rcases quoteFirstL_cases hs t with ⟨hq, hne, hall, _⟩ | hq <;> rw [hq]
  · exact reads_safe hs t hne hall
  · exact reads_sq t

theorem lex_joinSp (q : List Char → List Char) (hq : ∀ t, Reads (q t) t) (q₀ t₀ : List Char) (h₀ : Reads q₀ t₀)
    (ts : List (List Char)) : lexWords .out [] (joinSp (q₀ :: ts.map q)) = some (t₀ :: ts) := by
  induction ts generalizing q₀ t₀ with
  | nil => simpa [joinSp, lexWords] using h₀ [] []
  | cons t ts ih =>
    have hb : isBlank ' ' = true := by decide
    simp only [List.map_cons, joinSp]
    rw [h₀, lexWords, if_pos hb, ih _ _ (hq t)]
    simp

end Dippy
