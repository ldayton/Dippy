/-
The visitor of `SafetyAnalyzer` reaches every node, and reports nothing else: "is a node of the tree" is
written without reference to the visitor (`Child`, `Desc`), and `mem_visit_iff` says that the reports of
`visit t` are exactly the class-specific reports of the nodes `Desc t`.
-/
import Dippy.Model.PyAst

namespace Dippy.PyAst

/-- `c` stands directly in a field of `n`: as the field's value or as a member of its list -/
inductive Child : PNode → PNode → Prop where
  | field {k l fs name c} : (name, PVal.node c) ∈ fs → Child (.mk k l fs) c
  | item {k l fs name items c} : (name, PVal.list items) ∈ fs → PItem.node c ∈ items → Child (.mk k l fs) c

/-- `c` is a node of the tree `t`, reached through nodes the visitor's class-specific methods pass on to
    `generic_visit` (everything except the names of a `global` statement and the aliases of a relative
    `from . import x`, which is refused outright) -/
inductive Desc : PNode → PNode → Prop where
  | refl {a} : Desc a a
  | step {a b c} : descends a = true → Child a b → Desc b c → Desc a c

variable (T : Tables)

section
variable (ap : Bool) (v : Violation)

theorem mem_visitItems (items : List PItem) :
    v ∈ visitItems T ap items ↔ ∃ c, PItem.node c ∈ items ∧ v ∈ visit T ap c := by
  induction items with
  | nil => simp [visitItems]
  | cons it rest ih => cases it <;> simp [visitItems, ih, or_and_right, exists_or]

theorem mem_visitFields (fs : List (String × PVal)) :
    v ∈ visitFields T ap fs ↔ ∃ name pv, (name, pv) ∈ fs ∧ v ∈ visitVal T ap pv := by
  induction fs with
  | nil => simp [visitFields]
  | cons kv rest ih =>
    obtain ⟨k, x⟩ := kv
    simp [visitFields, ih, or_and_right, exists_or, and_assoc]

theorem mem_visit (n : PNode) :
    v ∈ visit T ap n ↔ v ∈ localViolations T ap n ∨ (descends n = true ∧ ∃ c, Child n c ∧ v ∈ visit T ap c) := by
  obtain ⟨k, l, fs⟩ := n
  have hch : (∃ c, Child (.mk k l fs) c ∧ v ∈ visit T ap c) ↔ v ∈ visitFields T ap fs := by
    rw [mem_visitFields]
    constructor
    · rintro ⟨c, hc, hv⟩
      cases hc with
      | field hm => exact ⟨_, _, hm, by simpa [visitVal] using hv⟩
      | item hm hi => exact ⟨_, _, hm, by simpa [visitVal, mem_visitItems] using ⟨c, hi, hv⟩⟩
    · rintro ⟨name, pv, hm, hv⟩
      cases pv with
      | node c => exact ⟨c, .field hm, by simpa [visitVal] using hv⟩
      | list items =>
        obtain ⟨c, hi, hv⟩ := (mem_visitItems T ap v items).mp (by simpa [visitVal] using hv)
        exact ⟨c, .item hm hi, hv⟩
      | _ => simp [visitVal] at hv
  rw [hch]
  cases hd : descends (.mk k l fs) <;> simp [visit, hd]

theorem Child.sizeOf_lt {n c : PNode} (h : Child n c) : sizeOf c < sizeOf n := by
  cases h with
  | field hm =>
    have := List.sizeOf_lt_of_mem hm
    simp only [PNode.mk.sizeOf_spec, Prod.mk.sizeOf_spec, PVal.node.sizeOf_spec] at this ⊢; omega
  | item hm hi =>
    have := List.sizeOf_lt_of_mem hm
    have := List.sizeOf_lt_of_mem hi
    simp only [PNode.mk.sizeOf_spec, Prod.mk.sizeOf_spec, PVal.list.sizeOf_spec, PItem.node.sizeOf_spec] at *; omega

theorem mem_visit_iff (t : PNode) : v ∈ visit T ap t ↔ ∃ n, Desc t n ∧ v ∈ localViolations T ap n := by
  constructor
  · -- by the size of the tree
    induction hs : sizeOf t using Nat.strongRecOn generalizing t with
    | _ s ih =>
      intro hv
      rcases (mem_visit T ap v t).mp hv with hl | ⟨hd, c, hc, hvc⟩
      · exact ⟨t, .refl, hl⟩
      · obtain ⟨n, hdn, hn⟩ := ih _ (hs ▸ hc.sizeOf_lt) c rfl hvc
        exact ⟨n, .step hd hc hdn, hn⟩
  · rintro ⟨n, hdn, hn⟩
    induction hdn with
    | refl => exact (mem_visit T ap v _).mpr (.inl hn)
    | step hd hc _ ih => exact (mem_visit T ap v _).mpr (.inr ⟨hd, _, hc, ih hn⟩)

end

/-- the visitor reaches every node: if the analysis of a tree reports nothing, then the class-specific
    check of every node of the tree – at any depth, in any field – reports nothing -/
theorem visit_covers (ap : Bool) (t n : PNode) (h : visit T ap t = []) (hd : Desc t n) :
    localViolations T ap n = [] :=
  List.eq_nil_iff_forall_not_mem.mpr fun v hv =>
    List.eq_nil_iff_forall_not_mem.mp h v ((mem_visit_iff T ap v t).mpr ⟨n, hd, hv⟩)

/-- … and conversely nothing else is reported: every violation comes from some node's own check -/
theorem visit_only_local (ap : Bool) :
    (∀ t : PNode, ∀ v ∈ visit T ap t, ∃ n, Desc t n ∧ v ∈ localViolations T ap n) :=
  fun t v hv => (mem_visit_iff T ap v t).mp hv

end Dippy.PyAst
