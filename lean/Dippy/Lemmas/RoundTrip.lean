/-
Rule-level write-then-parse round trip (C11): a canonical writer for config rule lines and the lemmas showing
`parseLine` reads back exactly what it wrote.  The repo has no writer; `renderLine` is the one the documentation
describes (directive, pattern tokens joined by blanks, optional ` |` anchor, optional quoted message, escaped).
-/
import Dippy.Lemmas.Escape

namespace Dippy.RT

/-- a pattern token: non-empty, no whitespace -/
def Tok (t : List Char) : Prop := t ≠ [] ∧ ∀ c ∈ t, Py.isSpace c = false

/-- `" ".join(tokens)` on character lists -/
def joinL : List (List Char) → List Char
  | [] => []
  | [x] => x
  | x :: y :: r => x ++ ' ' :: joinL (y :: r)

theorem splitWsAux_nospace (t rest cur : List Char) (h : ∀ c ∈ t, Py.isSpace c = false) :
    Py.splitWsAux (t ++ rest) cur = Py.splitWsAux rest (t.reverse ++ cur) := by
  induction t generalizing cur with
  | nil => simp
  | cons c t ih =>
    have hc : Py.isSpace c = false := h c (by simp)
    simp only [List.cons_append, Py.splitWsAux, hc, Bool.false_eq_true, ↓reduceIte]
    rw [ih _ (fun c' hc' => h c' (by simp [hc']))]
    simp

/-- `str.split()` emits a token at the end of the text and at a blank -/
theorem splitWsAux_tok_end {x : List Char} (hx : Tok x) : Py.splitWsAux x [] = [x] := by
  have := splitWsAux_nospace x [] [] hx.2
  rw [List.append_nil] at this
  rw [this, Py.splitWsAux]
  simp [hx.1]

theorem splitWsAux_tok_blank {x : List Char} (hx : Tok x) (rest : List Char) :
    Py.splitWsAux (x ++ ' ' :: rest) [] = x :: Py.splitWsAux rest [] := by
  rw [splitWsAux_nospace x _ [] hx.2, Py.splitWsAux]
  simp [hx.1, Py.isSpace_space]

theorem splitWsAux_join (ts : List (List Char)) (h : ∀ t ∈ ts, Tok t) : Py.splitWsAux (joinL ts) [] = ts := by
  fun_induction joinL ts with
  | case1 => rfl  -- no token
  | case2 x => exact splitWsAux_tok_end (h x (by simp))  -- the last token
  | case3 =>  -- a token, a blank, more tokens
    rename_i x _ _ ih
    rw [splitWsAux_tok_blank (h x (by simp)), ih fun t ht => h t (by simp [ht])]

/-- a non-empty text that neither begins nor ends with a blank -/
structure Solid (l : List Char) : Prop where
  ne : l ≠ []
  first : ∀ c, l.head? = some c → Py.isSpace c = false
  last : ∀ c, l.getLast? = some c → Py.isSpace c = false

theorem Solid.strip {l : List Char} (h : Solid l) : Py.strip (String.ofList l) = String.ofList l := by
  unfold Py.strip
  rw [String.toList_ofList, Py.stripL_id _ l h.first h.last]

theorem Solid.nonempty {l : List Char} (h : Solid l) : (String.ofList l).isEmpty = false := by
  simp [h.ne]

theorem Solid.single {c : Char} (hc : Py.isSpace c = false) : Solid [c] :=
  ⟨by simp, fun d hd => by cases hd; exact hc, fun d hd => by cases hd; exact hc⟩

theorem Tok.solid {t : List Char} (h : Tok t) : Solid t :=
  ⟨h.1, fun c hc => h.2 c (List.mem_of_head? hc), fun c hc => h.2 c (List.mem_of_getLast? hc)⟩

theorem Solid.append {a b : List Char} (ha : Solid a) (mid : List Char) (hb : Solid b) : Solid (a ++ mid ++ b) := by
  refine ⟨by simp [ha.ne], fun c hc => ha.first c ?_, fun c hc => hb.last c ?_⟩
  · cases a with
    | nil => exact absurd rfl ha.ne
    | cons x t => exact hc
  · rw [List.getLast?_append] at hc
    cases hl : b.getLast? with
    | none => exact absurd (List.getLast?_eq_none_iff.mp hl) hb.ne
    | some y => rw [hl] at hc; exact hc

theorem joinL_solid (ts : List (List Char)) (hne : ts ≠ []) (ht : ∀ t ∈ ts, Tok t) : Solid (joinL ts) := by
  fun_induction joinL ts with
  | case1 => exact absurd rfl hne  -- no token
  | case2 x => exact (ht x (by simp)).solid  -- the last token
  | case3 =>  -- a token, a blank, more tokens
    rename_i x _ _ ih
    simpa using (ht x (by simp)).solid.append [' '] (ih (by simp) fun t h => ht t (by simp [h]))

theorem line_solid {d body : List Char} (hd : Tok d) (hb : Solid body) : Solid (d ++ ' ' :: body) := by
  simpa using hd.solid.append [' '] hb

theorem split1_line {d body : List Char} (hd : Tok d) (hb : Solid body) :
    Py.split1 (String.ofList (d ++ ' ' :: body)) = [String.ofList d, String.ofList body] := by
  unfold Py.split1
  have hd' : ∀ c ∈ d, (!Py.isSpace c) = true := fun c hc => by rw [hd.2 c hc]; rfl
  have hsp : ¬ (!Py.isSpace ' ') = true := by simp [Py.isSpace_space]
  have hrest : Py.lstripL Py.isSpace (' ' :: body) = body := by
    rw [Py.lstripL, Py.isSpace_space, if_pos rfl, Py.lstripL_id _ _ hb.first]
  simp only [String.toList_ofList]
  rw [Py.lstripL_id _ _ (line_solid hd hb).first, List.takeWhile_append_of_pos hd', List.dropWhile_append_of_pos hd',
    List.takeWhile_cons_of_neg (p := fun c => !Py.isSpace c) hsp,
    List.dropWhile_cons_of_neg (p := fun c => !Py.isSpace c) hsp, List.append_nil, hrest]
  simp [(line_solid hd hb).ne, hb.ne]

/-! ### the writer -/

def msgPart : Option (List Char) → List Char
  | none => []
  | some m => [' ', '"'] ++ escapeL m ++ ['"']

def anchorPart (ex : Bool) : List Char := if ex then [' ', '|'] else []

theorem anchorPart_false : anchorPart false = [] := rfl

/-- the rule line a writer produces: directive, pattern tokens, ` |` when exact, quoted message -/
def renderLine (d : String) (ts : List (List Char)) (ex : Bool) (m : Option (List Char)) : String :=
  String.ofList (d.toList ++ ' ' :: (joinL ts ++ anchorPart ex ++ msgPart m))

/-- well-formed pattern: at least one token, tokens non-empty and blank-free; when the rule is not
    exact the pattern does not itself end in the anchor `|`, and when there is neither anchor nor
    message it does not end in `"` (which would read as the end of a message) -/
structure WfPat (ts : List (List Char)) (ex : Bool) (m : Option (List Char)) : Prop where
  ne : ts ≠ []
  toks : ∀ t ∈ ts, Tok t
  noBar : ex = false → ∀ pre c, joinL ts = pre ++ [c] → c ≠ '|'
  noQuote : ex = false → m = none → ∀ pre c, joinL ts = pre ++ [c] → c ≠ '"'

/-- the decidable form of `WfPat` (what the correspondence harness evaluates) -/
def wfPatB (ts : List (List Char)) (ex : Bool) (m : Option (List Char)) : Bool :=
  !ts.isEmpty && ts.all (fun t => !t.isEmpty && t.all (fun c => !Py.isSpace c))
    && (ex || (joinL ts).getLast? != some '|')
    && (ex || m.isSome || (joinL ts).getLast? != some '"')

theorem wfPatB_sound (ts : List (List Char)) (ex : Bool) (m : Option (List Char)) (h : wfPatB ts ex m = true) :
    WfPat ts ex m := by
  unfold wfPatB at h
  simp only [Bool.and_eq_true, Bool.not_eq_true', List.all_eq_true, Bool.or_eq_true, bne_iff_ne, ne_eq] at h
  obtain ⟨⟨⟨h1, h2⟩, h3⟩, h4⟩ := h
  -- `wfPatB` tests `getLast?`, `WfPat` speaks of `joinL ts = pre ++ [c]`
  have last : ∀ {pre c}, joinL ts = pre ++ [c] → (joinL ts).getLast? = some c :=
    fun hj => hj ▸ List.getLast?_concat
  refine ⟨?_, fun t ht => ⟨?_, fun c hc => ?_⟩, ?_, ?_⟩
  · rintro rfl  -- at least one token
    simp at h1
  · rintro rfl  -- no empty token
    simpa using (h2 _ ht).1
  · simpa using (h2 t ht).2 c hc  -- no blank in a token
  · rintro rfl pre c hj rfl  -- not exact: no `|` at the end
    exact h3.elim nofun (· (last hj))
  · rintro rfl rfl pre c hj rfl  -- neither anchor nor message: no `"` at the end
    exact h4.elim (·.elim nofun nofun) (· (last hj))

/-- `hne`, `ht` and not `WfPat ts ex m`: `extract_body` needs it at `m := none` -/
theorem body_solid (ts : List (List Char)) (ex : Bool) (m : Option (List Char)) (hne : ts ≠ [])
    (ht : ∀ t ∈ ts, Tok t) : Solid (joinL ts ++ anchorPart ex ++ msgPart m) := by
  have hj := joinL_solid ts hne ht
  cases m with
  | some mm =>
    simpa [msgPart] using hj.append (anchorPart ex ++ ' ' :: '"' :: escapeL mm) (Solid.single Py.isSpace_quote)
  | none =>
    cases ex with
    | true => simpa [msgPart, anchorPart] using hj.append [' '] (Solid.single (c := '|') (by decide))
    | false => simpa [msgPart, anchorPart] using hj

theorem extractMessage_plain {l : List Char} (hl : Solid l) (hq : l.getLast? ≠ some '"') :
    extractMessage (String.ofList l) = .ok (String.ofList l) none := by
  unfold extractMessage
  simp only [String.toList_ofList]
  rw [Py.rstripL_id _ _ hl.last]
  split
  · rename_i rb heq  -- the text ends in `"`
    exact absurd (by rw [List.getLast?_eq_head?_reverse, heq]; rfl) hq
  · rfl  -- it does not

theorem stripExactAnchor_plain {l : List Char} (hq : l.getLast? ≠ some '|') :
    stripExactAnchor (String.ofList l) = (String.ofList l, false) := by
  unfold stripExactAnchor Py.endsWith
  rw [String.toList_ofList (l := l), if_neg]
  intro hh
  obtain ⟨t, ht⟩ := List.isSuffixOf_iff_suffix.mp hh
  exact hq (by rw [← ht]; exact List.getLast?_concat)

theorem stripExactAnchor_bar {l : List Char} (hl : Solid l) :
    stripExactAnchor (String.ofList (l ++ [' ', '|'])) = (String.ofList l, true) := by
  have hc : l ++ [' ', '|'] = (l ++ [' ']) ++ ['|'] := by simp
  unfold stripExactAnchor Py.endsWith Py.rstrip
  rw [if_pos (List.isSuffixOf_iff_suffix.mpr ⟨l ++ [' '], by simp⟩)]
  simp only [String.toList_ofList]
  rw [hc, List.dropLast_concat, Py.rstripL_append_right _ _ _ (by simp [Py.isSpace_space]), Py.rstripL_id _ _ hl.last]

/-- `_extract_message` on the body: the pattern with its anchor, and the message -/
theorem extract_body (ts : List (List Char)) (ex : Bool) (m : Option (List Char)) (h : WfPat ts ex m) :
    extractMessage (String.ofList (joinL ts ++ anchorPart ex ++ msgPart m))
      = .ok (String.ofList (joinL ts ++ anchorPart ex)) (m.map String.ofList) := by
  have hp : Solid (joinL ts ++ anchorPart ex) := by simpa [msgPart] using body_solid ts ex none h.ne h.toks
  cases m with
  | some mm =>
    simpa [msgPart, List.append_assoc] using
      extract_render (joinL ts ++ anchorPart ex) mm hp.ne (Py.rstripL_id _ _ hp.last)
  | none =>
    rw [msgPart, List.append_nil]
    refine extractMessage_plain hp fun hq => ?_
    cases ex with
    | true => simp [anchorPart] at hq
    | false =>
      rw [anchorPart, if_neg Bool.false_ne_true, List.append_nil] at hq
      obtain ⟨pre, hx⟩ := List.getLast?_eq_some_iff.mp hq
      exact h.noQuote rfl rfl pre '"' hx rfl

/-- `_strip_exact_anchor` on pattern + anchor -/
theorem anchor_body (ts : List (List Char)) (ex : Bool) (m : Option (List Char)) (h : WfPat ts ex m) :
    stripExactAnchor (String.ofList (joinL ts ++ anchorPart ex)) = (String.ofList (joinL ts), ex) := by
  cases ex with
  | true => exact stripExactAnchor_bar (joinL_solid ts h.ne h.toks)
  | false =>
    rw [anchorPart, if_neg Bool.false_ne_true, List.append_nil]
    refine stripExactAnchor_plain fun hq => ?_
    obtain ⟨pre, hx⟩ := List.getLast?_eq_some_iff.mp hq
    exact h.noBar rfl pre '|' hx rfl

theorem tildes_join (pe : PathEnv) (ts : List (List Char)) (h : ∀ t ∈ ts, Tok t) :
    expandPatternTildes pe (String.ofList (joinL ts))
      = Py.joinSpace ((ts.map String.ofList).map (expandHomeOnly pe)) := by
  unfold expandPatternTildes Py.splitWs
  simp only [String.toList_ofList]
  rw [splitWsAux_join ts h]

theorem joinSpace_ofList (ts : List (List Char)) : Py.joinSpace (ts.map String.ofList) = String.ofList (joinL ts) := by
  apply String.toList_inj.mp
  have : (String.toList ∘ String.ofList) = id := funext fun _ => String.toList_ofList
  rw [Py.joinSpace, String.toList_intercalate, List.map_map, this, List.map_id, String.toList_ofList (l := joinL ts)]
  fun_induction joinL ts with
  | case1 => rfl  -- no token
  | case2 => simp [List.intercalate]  -- the last token
  | case3 =>  -- a token, a blank, more tokens
    rename_i ih
    rw [← ih]
    simp [List.intercalate, List.intersperse]

theorem classifyToken_home {t : String} {isPath : Bool} (h : classifyToken t isPath = .home) :
    (t == "~" || Py.startsWith t "~/") = true := by
  revert h
  fun_cases classifyToken t isPath with
  | case4 =>  -- the fourth test: `.home`
    rename_i hc
    exact fun _ => hc
  | _ => exact nofun

/-- a token that is not `~` / `~/…` is left alone by the parse-time tilde expansion -/
theorem expandHomeOnly_id (pe : PathEnv) (t : String) (h : Py.startsWith t "~" = false) : expandHomeOnly pe t = t := by
  unfold expandHomeOnly
  rw [if_neg]
  intro hk
  rcases Bool.or_eq_true _ _ |>.mp (classifyToken_home hk) with h1 | h1
  · rw [eq_of_beq h1] at h; cases h
  · unfold Py.startsWith at h h1
    rw [List.isPrefixOf_iff_prefix] at h1
    rw [List.isPrefixOf_iff_prefix.mpr ((show "~".toList <+: "~/".toList from ⟨['/'], rfl⟩).trans h1)] at h
    cases h

/-- the eleven directives that make a rule -/
inductive Dir where
  | allow | ask | deny | allowRedirect | askRedirect | denyRedirect | after | allowMcp | askMcp | denyMcp | afterMcp

def Dir.word : Dir → String
  | .allow => "allow" | .ask => "ask" | .deny => "deny"
  | .allowRedirect => "allow-redirect" | .askRedirect => "ask-redirect" | .denyRedirect => "deny-redirect"
  | .after => "after"
  | .allowMcp => "allow-mcp" | .askMcp => "ask-mcp" | .denyMcp => "deny-mcp"
  | .afterMcp => "after-mcp"

/-- `allow*` take the whole rest as pattern, the others look for a quoted message -/
def Dir.hasMsg : Dir → Bool
  | .allow | .allowRedirect | .allowMcp => false
  | _ => true

def cmdRule (pe : PathEnv) (a : Action) (p : String) (m : Option String) : LineResult :=
  .rule { decision := a, pattern := expandPatternTildes pe (stripExactAnchor p).1, message := m,
          exact := (stripExactAnchor p).2 }

def redirRule (pe : PathEnv) (a : Action) (p : String) (m : Option String) : LineResult :=
  .redirect { decision := a, pattern := expandPatternTildes pe p, message := m }

/-- the rule a directive makes of pattern text and message -/
def Dir.make (pe : PathEnv) : Dir → String → Option String → LineResult
  | .allow => cmdRule pe .allow | .ask => cmdRule pe .ask | .deny => cmdRule pe .deny
  | .allowRedirect => redirRule pe .allow | .askRedirect => redirRule pe .ask | .denyRedirect => redirRule pe .deny
  | .after => fun p m => .after { pattern := p, message := m }
  | .allowMcp => fun p m => .mcp { decision := .allow, pattern := p, message := m }
  | .askMcp => fun p m => .mcp { decision := .ask, pattern := p, message := m }
  | .denyMcp => fun p m => .mcp { decision := .deny, pattern := p, message := m }
  | .afterMcp => fun p m => .afterMcp { pattern := p, message := m }

theorem parseLine_dir (e : ParseEnv) (D : Dir) (raw line d r : String) (hst : Py.strip raw = line)
    (hne : line.isEmpty = false) (hc : Py.startsWith line "#" = false) (hs : Py.split1 line = [d, r])
    (hd : String.ofList (d.toList.map Char.toLower) = D.word) :
    parseLine e raw =
      if (Py.strip r).isEmpty then .skip else
        match (if D.hasMsg then extractMessage (Py.strip r) else .ok (Py.strip r) none) with
        | .ok p m => D.make e.pathEnv p m
        | .error => .skip := by
  -- `unfold parseLine` runs out of heartbeats; `delta` does not
  delta parseLine
  simp only [hst, hne, hc, hs, hd, Bool.or_self, Bool.false_eq_true, ↓reduceIte]
  -- per directive; the two sides then differ only in the compiled `match`
  cases D <;>
    simp only [Dir.word, Dir.hasMsg, Dir.make, cmdRule, redirRule, String.reduceBEq, Bool.false_eq_true,
      ↓reduceIte] <;>
    (cases extractMessage (Py.strip r) <;> rfl)

/-- a directive word as the writer may spell it: no blanks, not a comment -/
def wordOk (d : String) : Bool :=
  !d.toList.isEmpty && d.toList.all (fun c => !Py.isSpace c) && d.toList.head? != some '#'

theorem wordOk_tok {d : String} (h : wordOk d = true) : Tok d.toList := by
  simp only [wordOk, Bool.and_eq_true, Bool.not_eq_true', List.all_eq_true] at h
  exact ⟨fun hh => by simp [hh] at h, fun c hc => h.1.2 c hc⟩

theorem wordOk_hash {d : String} (h : wordOk d = true) (body : List Char) :
    Py.startsWith (String.ofList (d.toList ++ body)) "#" = false := by
  unfold wordOk at h
  cases hd : d.toList with
  | nil => simp [hd] at h
  | cons c t =>
    simp only [hd, List.head?_cons, Bool.and_eq_true, bne_iff_ne, ne_eq, Option.some.injEq] at h
    have : "#".toList = ['#'] := rfl
    simp [Py.startsWith, this, List.isPrefixOf, Ne.symm h.2]

theorem Dir.word_ok (D : Dir) : wordOk D.word = true ∧ D.word.toList.map Char.toLower = D.word.toList := by
  -- as `String.ofList` of its characters the kernel need not UTF-8-decode the literal
  cases D <;> (simp only [Dir.word, wordOk]; rw [String.toList_ofList]; decide +kernel)

/-- every rule directive, in any spelling of its word, reads back what the writer wrote -/
theorem roundtrip (e : ParseEnv) (D : Dir) (d : String) (hd : wordOk d = true)
    (hlow : String.ofList (d.toList.map Char.toLower) = D.word)
    (ts : List (List Char)) (ex : Bool) (m : Option (List Char))
    (h : WfPat ts ex m) (hm : D.hasMsg = false → m = none) :
    parseLine e (renderLine d ts ex m)
      = D.make e.pathEnv (String.ofList (joinL ts ++ anchorPart ex)) (m.map String.ofList) := by
  have hb := body_solid ts ex m h.ne h.toks
  have hl := line_solid (wordOk_tok hd) hb
  have hsplit := split1_line (wordOk_tok hd) hb
  rw [String.ofList_toList] at hsplit
  unfold renderLine
  rw [parseLine_dir e D _ _ _ _ hl.strip hl.nonempty (wordOk_hash hd _) hsplit hlow, hb.strip, hb.nonempty]
  cases hM : D.hasMsg with
  | true => simp only [extract_body ts ex m h, Bool.false_eq_true, ↓reduceIte]
  | false => rw [hm hM]; simp [msgPart]

theorem roundtrip_word (e : ParseEnv) (D : Dir) (ts : List (List Char)) (ex : Bool) (m : Option (List Char))
    (h : WfPat ts ex m) (hm : D.hasMsg = false → m = none) :
    parseLine e (renderLine D.word ts ex m)
      = D.make e.pathEnv (String.ofList (joinL ts ++ anchorPart ex)) (m.map String.ofList) :=
  roundtrip e D D.word D.word_ok.1 (by rw [D.word_ok.2, String.ofList_toList]) ts ex m h hm

theorem roundtrip_plain (e : ParseEnv) (D : Dir) (ts : List (List Char)) (m : Option (List Char))
    (h : WfPat ts false m) (hm : D.hasMsg = false → m = none) :
    parseLine e (renderLine D.word ts false m) = D.make e.pathEnv (String.ofList (joinL ts)) (m.map String.ofList) := by
  rw [roundtrip_word e D ts false m h hm, anchorPart_false, List.append_nil]

theorem cmdRule_body (pe : PathEnv) (a : Action) (ts : List (List Char)) (ex : Bool) (m : Option (List Char))
    (h : WfPat ts ex m) (msg : Option String) :
    cmdRule pe a (String.ofList (joinL ts ++ anchorPart ex)) msg
      = .rule { decision := a, pattern := Py.joinSpace ((ts.map String.ofList).map (expandHomeOnly pe)),
                message := msg, exact := ex } := by
  unfold cmdRule
  rw [anchor_body ts ex m h, tildes_join _ ts h.toks]

theorem redirRule_body (pe : PathEnv) (a : Action) (ts : List (List Char)) (ht : ∀ t ∈ ts, Tok t)
    (msg : Option String) :
    redirRule pe a (String.ofList (joinL ts)) msg
      = .redirect { decision := a, pattern := Py.joinSpace ((ts.map String.ofList).map (expandHomeOnly pe)),
                    message := msg } := by
  unfold redirRule
  rw [tildes_join _ ts ht]

end Dippy.RT
