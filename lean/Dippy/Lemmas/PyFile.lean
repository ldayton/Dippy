/-
What `analyze_python_file = (True, …)` guarantees (model: Model/PyFile.lean).
-/
import Dippy.Model.PyFile

namespace Dippy.PyFile
open Dippy.PyAst

theorem Verdict.eq_safe {v : Verdict} (h : v.isSafe = true) : v = .safe := by
  cases v with
  | safe => rfl
  | refused _ => cases h

/-- a file judged safe exists, is a regular file with a Python suffix, is within the size limit, is readable as
    UTF-8 and declares no other encoding, parses, passes the AST checker with no violation at all, and none of the
    modules it imports is shadowed by a file or directory next to it -/
theorem safe_means (T : Tables) (suffixes : List String) (limit : Nat) (isName : Char → Bool) (ff : FileFacts)
    (h : analyzeFile T suffixes limit isName ff = .safe) :
    ff.pathExists = true ∧ ff.isFile = true ∧ suffixes.contains ff.suffix = true
      ∧ (∃ sz, ff.size = some sz ∧ sz ≤ limit)
      ∧ ∃ src tree, ff.source = some src ∧ foreignCookie isName src = none ∧ ff.tree = some tree
          ∧ visit T true tree = [] ∧ ∀ r ∈ importRoots tree, ff.shadowed r = false := by
  revert h
  fun_cases analyzeFile T suffixes limit isName ff with
  | case11 =>  -- the `.safe` branch
    rename_i h1 h2 h3 sz hsz _ src hsrc hck tree htree hfirst hfind
    refine fun _ => ⟨by simpa using h1, by simpa using h2, by simpa using h3, ⟨sz, hsz, by omega⟩, src, tree, hsrc, hck,
      htree, ?_, ?_⟩
    · unfold firstReason at hfirst
      split at hfirst
      · assumption
      · cases hfirst
    · intro r hr
      simpa using List.find?_eq_none.mp hfind r hr
  | _ => exact fun h => nomatch h

/-- without the `String` round trips of the line splitting: the form the kernel can evaluate -/
theorem foreignCookie_ofList (isName : Char → Bool) (l : List Char) :
    foreignCookie isName (String.ofList l) =
      ((Py.splitOnChar '\n' l []).take 2).findSome? fun line =>
        match (match line.dropWhile (fun c => c == ' ' || c == '\t' || c == '\x0c') with
               | '#' :: rest => (cookieAfterHash isName rest).map String.ofList
               | _ => none) with
        | some name => if utf8Names.contains (normEncoding name) then none else some name
        | none => none := by
  simp only [foreignCookie, firstTwoLines, codingCookie, List.findSome?_map, Function.comp_def, String.toList_ofList]
  rfl

end Dippy.PyFile
