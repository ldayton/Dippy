/-
R1's algebra: `Action.sup` is `max` on ranks, `supList` the least upper bound of a list, `S` the join of the
actions of a list of decisions, and `_combine` computes `S`.
-/
import Dippy.Model.Action

namespace Dippy

namespace Action

theorem rank_sup (a b : Action) : (sup a b).rank = max a.rank b.rank := by cases a <;> cases b <;> rfl
theorem rank_inj {a b : Action} (h : a.rank = b.rank) : a = b := by
  cases a <;> cases b <;> first | rfl | cases h

theorem sup_comm (a b : Action) : sup a b = sup b a := rank_inj (by simp only [rank_sup, Nat.max_comm])
theorem sup_assoc (a b c : Action) : sup (sup a b) c = sup a (sup b c) :=
  rank_inj (by simp only [rank_sup, Nat.max_assoc])
@[simp] theorem sup_idem (a : Action) : sup a a = a := by cases a <;> rfl
@[simp] theorem sup_allow_left (a : Action) : sup .allow a = a := by cases a <;> rfl
@[simp] theorem sup_allow_right (a : Action) : sup a .allow = a := by cases a <;> rfl
@[simp] theorem sup_deny_left (a : Action) : sup .deny a = .deny := by cases a <;> rfl
@[simp] theorem sup_deny_right (a : Action) : sup a .deny = .deny := by cases a <;> rfl

theorem le_def (a b : Action) : a ≤ b ↔ a.rank ≤ b.rank := Iff.rfl
theorem le_refl (a : Action) : a ≤ a := Nat.le_refl _
theorem le_trans {a b c : Action} : a ≤ b → b ≤ c → a ≤ c := Nat.le_trans
theorem le_antisymm {a b : Action} (h1 : a ≤ b) (h2 : b ≤ a) : a = b := rank_inj (Nat.le_antisymm h1 h2)
theorem allow_le (a : Action) : Action.allow ≤ a := Nat.zero_le _
theorem le_deny (a : Action) : a ≤ Action.deny := by cases a <;> decide
theorem le_sup_left (a b : Action) : a ≤ sup a b := (le_def ..).2 (rank_sup a b ▸ Nat.le_max_left ..)
theorem le_sup_right (a b : Action) : b ≤ sup a b := (le_def ..).2 (rank_sup a b ▸ Nat.le_max_right ..)
theorem sup_le {a b c : Action} (h1 : a ≤ c) (h2 : b ≤ c) : sup a b ≤ c :=
  (le_def ..).2 (rank_sup a b ▸ Nat.max_le.2 ⟨h1, h2⟩)
theorem sup_eq_left {a b : Action} (h : b ≤ a) : sup a b = a := rank_inj (by rw [rank_sup, Nat.max_eq_left h])
theorem sup_eq_allow {a b : Action} : sup a b = .allow ↔ a = .allow ∧ b = .allow := by
  cases a <;> cases b <;> decide
theorem le_allow {a : Action} : a ≤ .allow ↔ a = .allow := by
  cases a <;> decide

end Action

theorem foldl_sup (as : List Action) (x : Action) :
    as.foldl Action.sup x = Action.sup x (as.foldl Action.sup .allow) := by
  induction as generalizing x with
  | nil => simp
  | cons a as ih =>
    simp only [List.foldl_cons]
    rw [ih (Action.sup x a), ih (Action.sup .allow a)]
    simp [Action.sup_assoc]

@[simp] theorem supList_nil : supList [] = .allow := rfl

@[simp] theorem supList_cons (a : Action) (as : List Action) :
    supList (a :: as) = Action.sup a (supList as) := by
  unfold supList
  rw [List.foldl_cons, foldl_sup]
  simp

@[simp] theorem supList_append (xs ys : List Action) :
    supList (xs ++ ys) = Action.sup (supList xs) (supList ys) := by
  induction xs with
  | nil => simp
  | cons a xs ih => simp [ih, Action.sup_assoc]

theorem supList_singleton (a : Action) : supList [a] = a := by simp

theorem le_supList {a : Action} {as : List Action} (h : a ∈ as) : a ≤ supList as := by
  induction as with
  | nil => cases h
  | cons b bs ih =>
    rw [supList_cons]
    cases h with
    | head => exact Action.le_sup_left _ _
    | tail _ h => exact Action.le_trans (ih h) (Action.le_sup_right _ _)

theorem supList_le {c : Action} {as : List Action} (h : ∀ a ∈ as, a ≤ c) : supList as ≤ c := by
  induction as with
  | nil => exact Action.allow_le _
  | cons b bs ih =>
    rw [supList_cons]
    exact Action.sup_le (h b (List.mem_cons_self ..)) (ih fun a ha => h a (List.mem_cons_of_mem _ ha))

theorem supList_mem (as : List Action) : supList as = .allow ∨ supList as ∈ as := by
  induction as with
  | nil => left; rfl
  | cons b bs ih =>
    rw [supList_cons]
    rcases ih with h | h
    · rw [h]; right; simp
    · cases b <;> cases hs : supList bs <;> simp_all [Action.sup]

theorem supList_le_iff {c : Action} {as : List Action} : supList as ≤ c ↔ ∀ a ∈ as, a ≤ c :=
  ⟨fun h _ ha => Action.le_trans (le_supList ha) h, supList_le⟩

theorem supList_eq_allow {as : List Action} : supList as = .allow ↔ ∀ a ∈ as, a = .allow := by
  simp only [← Action.le_allow, supList_le_iff]

theorem supList_congr_mem {xs ys : List Action} (h : ∀ a, a ∈ xs ↔ a ∈ ys) : supList xs = supList ys :=
  Action.le_antisymm (supList_le fun a ha => le_supList ((h a).1 ha)) (supList_le fun a ha => le_supList ((h a).2 ha))

theorem supList_perm {xs ys : List Action} (h : xs.Perm ys) : supList xs = supList ys :=
  supList_congr_mem fun _ => h.mem_iff

theorem supList_dup (xs : List Action) : supList (xs ++ xs) = supList xs :=
  supList_congr_mem fun _ => by simp

def acts (ds : List Decision) : List Action := ds.map (·.action)

@[simp] theorem acts_nil : acts [] = [] := rfl
@[simp] theorem acts_cons (d : Decision) (ds : List Decision) : acts (d :: ds) = d.action :: acts ds := rfl
@[simp] theorem acts_append (xs ys : List Decision) : acts (xs ++ ys) = acts xs ++ acts ys := by
  simp [acts]

def S (ds : List Decision) : Action := supList (acts ds)

@[simp] theorem S_nil : S [] = .allow := rfl
@[simp] theorem S_append (a b : List Decision) : S (a ++ b) = Action.sup (S a) (S b) := by
  simp [S]
@[simp] theorem S_cons (d : Decision) (ds : List Decision) : S (d :: ds) = Action.sup d.action (S ds) := by
  simp [S]
theorem S_singleton (d : Decision) : S [d] = d.action := by simp [S]

theorem S_eq_allow {ds : List Decision} : S ds = .allow ↔ ∀ d ∈ ds, d.action = .allow := by
  simp [S, supList_eq_allow, acts]

theorem combine_action (ds : List Decision) : (combine ds).action = S ds := by
  induction ds with
  | nil => rfl
  | cons d ds ih =>
    rw [S_cons, ← ih]
    unfold combine
    cases hd : d.action <;> cases ds with
    | nil => simp [hd]
    | cons e es =>
      simp only [List.isEmpty_cons, Bool.false_eq_true, ↓reduceIte, List.any_cons, hd]
      -- the two conditions of `combine (e :: es)`: some decision denies, some decision asks
      by_cases h1 : (decide (e.action = Action.deny) || es.any fun d => decide (d.action = Action.deny)) = true
      · simp [h1]
      · by_cases h2 : (decide (e.action = Action.ask) || es.any fun d => decide (d.action = Action.ask)) = true <;>
          simp [h1, h2, Action.sup]

theorem combine_action_append (xs ys : List Decision) :
    (combine (xs ++ ys)).action = Action.sup (combine xs).action (combine ys).action := by
  simp [combine_action]

theorem combine_singleton_action (d : Decision) : (combine [d]).action = d.action := by
  simp [combine_action]

theorem combine_singleton (d : Decision) : combine [d] = d := by
  unfold combine
  cases d with
  | mk a r => cases a <;> simp [reasonsOf, joinComma]

end Dippy
