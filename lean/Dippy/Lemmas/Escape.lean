/-
The message escaping round trip: `_unescape (escape m) = m` and
`_extract_message (p ++ " \"" ++ escape m ++ "\"") = (p, m)`.
`escape` is the canonical writer (the repo has none): `\` ↦ `\\`, `"` ↦ `\"`.
-/
import Dippy.Model.Config
import Dippy.Lemmas.Strip

namespace Dippy

def escapeL : List Char → List Char
  | [] => []
  | '\\' :: t => '\\' :: '\\' :: escapeL t
  | '"' :: t => '\\' :: '"' :: escapeL t
  | c :: t => c :: escapeL t

theorem unescape_escape (m : List Char) : unescapeL (escapeL m) = m := by
  fun_induction escapeL m with
  | case1 => rfl  -- the end
  | case2 _ ih => rw [unescapeL, ih]  -- a backslash
  | case3 _ ih => rw [unescapeL, ih]  -- a quote
  | case4 =>  -- any other character: the backslash equations of `unescapeL` do not apply
    rename_i h1 _ ih
    rw [unescapeL, ih]
    · exact fun _ hc _ => h1 hc
    · exact fun _ hc _ => h1 hc

/-- an escaped message on a forward scan: blocks `\\`, `\"` and single characters that are neither `\` nor `"`
    (`extract_render` reads backwards and does not use it) -/
inductive Blocks : List Char → Prop where
  | nil : Blocks []
  | bs (t : List Char) : Blocks t → Blocks ('\\' :: '\\' :: t)
  | q (t : List Char) : Blocks t → Blocks ('\\' :: '"' :: t)
  | ch (c : Char) (t : List Char) : c ≠ '\\' → c ≠ '"' → Blocks t → Blocks (c :: t)

theorem blocks_escape (m : List Char) : Blocks (escapeL m) := by
  fun_induction escapeL m with
  | case1 => exact .nil  -- the end
  | case2 _ ih => exact .bs _ ih  -- a backslash
  | case3 _ ih => exact .q _ ih  -- a quote
  | case4 =>  -- any other character
    rename_i c _ h1 h2 ih
    exact .ch c _ h1 h2 ih

/-- read backwards, `\\` adds two to the backslash run and every other block ends it -/
theorem bsRun_escape (m rest : List Char) (h : (rest.takeWhile (· == '\\')).length % 2 = 0) :
    (((escapeL m).reverse ++ rest).takeWhile (· == '\\')).length % 2 = 0 := by
  fun_induction escapeL m generalizing rest with
  | case1 => exact h  -- the end
  | case2 _ ih =>  -- a backslash
    rw [List.reverse_cons, List.reverse_cons, List.append_assoc, List.append_assoc]
    exact ih _ (by simp only [List.cons_append, List.nil_append, List.takeWhile_cons, beq_self_eq_true, ↓reduceIte,
      List.length_cons]; omega)
  | case3 _ ih =>  -- a quote
    rw [List.reverse_cons, List.reverse_cons, List.append_assoc, List.append_assoc]
    exact ih _ (by simp)
  | case4 =>  -- any other character
    rename_i c _ h1 _ ih
    rw [List.reverse_cons, List.append_assoc]
    exact ih _ (by simp [show c ≠ '\\' from h1])

/-- each quote of an escaped message has a backslash, not a blank, before it: the backward search passes over it -/
theorem findOpenQuote_escape (m rest acc : List Char) :
    findOpenQuote ((escapeL m).reverse ++ rest) acc = findOpenQuote rest (escapeL m ++ acc) := by
  fun_induction escapeL m generalizing rest acc with
  | case1 => rfl  -- the end
  | case2 _ ih =>  -- a backslash: two non-quote steps
    rw [List.reverse_cons, List.reverse_cons, List.append_assoc, List.append_assoc, ih]
    simp only [List.cons_append, List.nil_append]
    rw [findOpenQuote, findOpenQuote]
    · exact nofun
    · exact nofun
  | case3 _ ih =>  -- a quote: the search goes on, then a non-quote step
    rw [List.reverse_cons, List.reverse_cons, List.append_assoc, List.append_assoc, ih]
    simp only [List.cons_append, List.nil_append]
    rw [findOpenQuote, if_neg (by rw [Py.isSpace_backslash]; exact nofun), findOpenQuote]
    exact nofun
  | case4 =>  -- any other character: one non-quote step
    rename_i h2 ih
    rw [List.reverse_cons, List.append_assoc, ih]
    simp only [List.cons_append, List.nil_append]
    rw [findOpenQuote]
    exact h2

/-- `_extract_message` reads back what the writer wrote: any pattern without trailing
    whitespace, any message (every character, including quotes and backslashes) -/
theorem extract_render (p m : List Char) (hp : p ≠ []) (hps : Py.rstripL Py.isSpace p = p) :
    extractMessage (String.ofList (p ++ [' ', '"'] ++ escapeL m ++ ['"']))
      = .ok (String.ofList p) (some (String.ofList m)) := by
  unfold extractMessage
  simp only [String.toList_ofList]
  rw [Py.rstripL_id _ _ (fun c hc => by rw [List.getLast?_concat] at hc; cases hc; exact Py.isSpace_quote)]
  have hrev : (p ++ [' ', '"'] ++ escapeL m ++ ['"']).reverse
      = '"' :: ((escapeL m).reverse ++ '"' :: ' ' :: p.reverse) := by
    simp
  rw [hrev]
  -- the `match` on the reversed text
  simp only
  rw [if_neg (by simp [bsRun_escape m ('"' :: ' ' :: p.reverse) (by simp)])]
  rw [findOpenQuote_escape, findOpenQuote]
  simp only [Py.isSpace_space, ↓reduceIte, List.append_nil]
  have h1 : (' ' :: p.reverse).reverse = p ++ [' '] := by simp
  rw [h1, Py.rstripL_append_right _ _ [' '] (by simp [Py.isSpace_space]), hps]
  have hpe : p.isEmpty = false := by cases p <;> simp_all
  simp only [hpe, Bool.false_eq_true, ↓reduceIte]
  rw [unescape_escape]

end Dippy
