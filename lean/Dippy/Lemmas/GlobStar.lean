/-
`**` patterns (`_glob_to_regex`): a matched text starts with the pattern's glob-free beginning, and a `*` inside such a
pattern never consumes a path separator.
-/
import Dippy.Lemmas.GlobLit

namespace Dippy.Glob

/-- `ReToks.cons` for several tokens at once -/
def ReToks.prepend (ts : List Tok) : ReToks → ReToks
  | .ok r => .ok (ts ++ r)
  | e => e

theorem reTokens_literal (l r : List Char) (hl : literal l) :
    reTokens (l ++ r) ((l ++ r).length + 1) = ReToks.prepend (lits l) (reTokens r (r.length + 1)) := by
  induction l with
  | nil =>
    show reTokens r (r.length + 1) = _
    cases reTokens r (r.length + 1) <;> rfl
  | cons c l ih =>
    obtain ⟨⟨h1, h2, h3⟩, hl'⟩ := List.forall_mem_cons.1 hl
    rw [List.cons_append, List.length_cons, reTokens, ih hl']
    · cases reTokens r (r.length + 1) <;> rfl
    -- side conditions of the catch-all equation: `c` starts no `**`, is no `*`, `?`, `[`
    · exact fun _ hh _ => h1 hh
    · exact fun _ hh _ => h1 hh
    · exact h1
    · exact h2
    · exact h3

theorem globMatch_literal_prefix (text pat : String) (l r : List Char) (hp : pat.toList = l ++ r) (hlit : literal l)
    (h : globMatch text pat = some true) : l.isPrefixOf text.toList = true := by
  unfold globMatch at h
  simp only at h
  split at h
  · -- no `**`: `fnmatch`
    rw [fnmatch, hp, fnTokens_literal _ _ hlit, matchToks_lits] at h
    simp only [Option.some.injEq, Bool.and_eq_true] at h
    exact h.1
  · split at h
    · -- the pattern `**`
      rename_i hss
      have hpat : l ++ r = ['*', '*'] := by rw [← hp, eq_of_beq hss]; rfl
      cases l with
      | nil => rfl
      | cons c l => exact absurd (List.cons.inj hpat).1 (List.forall_mem_cons.1 hlit).1.1
    · -- another `**` pattern: `reTokens`
      rw [hp, reTokens_literal _ _ hlit] at h
      cases hr : reTokens r (r.length + 1) <;> simp only [hr, ReToks.prepend] at h
      · -- tokens
        rw [matchToks_lits] at h
        simp only [Option.some.injEq, Bool.and_eq_true] at h
        exact h.1
      · -- `re.error`
        simp at h
      · -- outside the model
        cases h

theorem starNoSlash_consumes (f : List Char → Bool) (s : List Char)
    (h : starWith (fun c => c != '/') f s = true) :
    ∃ k, (∀ c ∈ s.take k, c ≠ '/') ∧ f (s.drop k) = true := by
  induction s with
  | nil => exact ⟨0, by simp, by simpa [starWith] using h⟩
  | cons c t ih =>
    simp only [starWith, Bool.or_eq_true, Bool.and_eq_true] at h
    rcases h with h | ⟨hc, ht⟩
    · exact ⟨0, by simp, h⟩
    · obtain ⟨k, hk1, hk2⟩ := ih ht
      refine ⟨k + 1, ?_, by simpa using hk2⟩
      intro x hx
      simp only [List.take_succ_cons, List.mem_cons] at hx
      rcases hx with rfl | hx
      · simpa using hc
      · exact hk1 x hx

/-- `*` in a `**` pattern: the matched part never contains a path separator -/
theorem star_no_slash (endOk : List Char → Bool) (ps : List Tok) (s : List Char)
    (h : matchToks endOk (.starNoSlash :: ps) s = true) :
    ∃ k, (∀ c ∈ s.take k, c ≠ '/') ∧ matchToks endOk ps (s.drop k) = true := by
  simp only [matchToks] at h
  exact starNoSlash_consumes _ _ h

-- and those are the tokens `_glob_to_regex` emits for `*` and `?`
example : reTokens "a*b?/**".toList 8 = .ok [.one (.lit 'a'), .starNoSlash, .one (.lit 'b'), .one .notSlash,
    .one (.lit '/'), .starNoNl] := by decide +kernel

end Dippy.Glob
