/-
Facts about the walk (`aNode` and friends) that the proofs of R1 and of C03 share: its two ways of combining
decisions take the join `S`, the list helpers are maps.
-/
import Dippy.Model.Analyzer
import Dippy.Lemmas.Combine

namespace Dippy

/-- the `if ds.isEmpty then allow … else combine ds` idiom still takes the join -/
theorem combine_or_allow (ds : List Decision) (r : String) :
    (if ds.isEmpty then (⟨.allow, r⟩ : Decision) else combine ds).action = S ds := by
  cases ds with
  | nil => rfl
  | cons d ds => exact combine_action (d :: ds)

/-- the pipeline/list idiom (re-join reasons when everything is allowed) keeps the action -/
theorem rejoin_action (ds : List Decision) :
    (let r := combine ds
     if r.action = .allow then (⟨.allow, joinComma (ds.map (·.reason))⟩ : Decision) else r).action = S ds := by
  simp only
  split
  · next h => rw [← combine_action, h]
  · exact combine_action ds

@[simp] theorem wrapNonAllow_action (p : String) (d : Decision) :
    (wrapNonAllow p d).action = d.action := by
  unfold wrapNonAllow; split <;> rfl

section
variable (w : World) (rec : Rec) (h : HelpTables)

theorem aNode_function (name : String) (b : Node) (cwd : String) (r : Bool) :
    aNode w rec h (.function name b) cwd r = aNode w rec h b cwd r := by
  -- `rw`, not `rfl` like its siblings: this realises `aNode`'s equation lemmas here, once for every importer
  rw [aNode]

theorem aNode_time (p : Node) (cwd : String) (r : Bool) :
    aNode w rec h (.time p) cwd r = aNode w rec h p cwd r := rfl

theorem aNode_negation (p : Node) (cwd : String) (r : Bool) :
    aNode w rec h (.negation p) cwd r = aNode w rec h p cwd r := rfl

theorem aNode_coproc (p : Node) (cwd : String) (r : Bool) :
    aNode w rec h (.coproc p) cwd r = aNode w rec h p cwd r := rfl

theorem aNodes_eq_map (ns : List Node) (cwd : String) (r : Bool) :
    aNodes w rec h ns cwd r = ns.map (fun n => aNode w rec h n cwd r) := by
  induction ns with
  | nil => simp [aNodes]
  | cons n ns ih => simp [aNodes, ih]

theorem aListParts_eq (ns : List Node) (cwd : String) (r : Bool) :
    aListParts w rec h ns cwd r
      = (ns.filter (fun n => !isOperator n)).map (fun n => aNode w rec h n cwd r) := by
  induction ns with
  | nil => simp [aListParts]
  | cons n ns ih =>
    cases hn : isOperator n <;> simp [aListParts, hn, ih]

theorem aListPartsCd_eq (ns : List Node) (cwd0 cwd : String) (r : Bool) :
    aListPartsCd w rec h ns cwd0 cwd r
      = (match ns.filter (fun n => !isOperator n) with
         | [] => []
         | p :: ps => aNode w rec h p cwd0 r :: ps.map (fun n => aNode w rec h n cwd r)) := by
  induction ns with
  | nil => simp [aListPartsCd]
  | cons n ns ih =>
    by_cases hn : isOperator n = true
    · simp [aListPartsCd, hn, ih]
    · simp [aListPartsCd, hn, aListParts_eq]

theorem aOptNode_acts (e : Option Node) (cwd : String) (r : Bool) :
    acts (aOptNode w rec h e cwd r) = (e.map (fun n => (aNode w rec h n cwd r).action)).toList := by
  cases e <;> simp [aOptNode]

/-- the two passes of step 3: when quote removal changes nothing they coincide, and the second is dropped from the list
    only when it is not stricter, which leaves the join unchanged -/
theorem S_cmdDecisions (words unquoted : List String) (b : Nat) (cwd : String) (r : Bool) :
    S (cmdDecisions w rec h words unquoted b cwd r)
      = Action.sup (simpleCmd w rec h (words.length + 1) (words.drop b) cwd r).action
          (simpleCmd w rec h (unquoted.length + 1) (unquoted.drop b) cwd r).action := by
  unfold cmdDecisions
  by_cases hq : unquoted = words
  · subst hq
    simp
  · have hq' : (unquoted != words) = true := by simpa using hq
    simp only [hq', Bool.true_and]
    split
    · simp
    · next hlt =>
      -- the second verdict is not stricter
      rw [S_singleton, Action.sup_eq_left (Nat.le_of_not_lt (by simpa using hlt))]

end
end Dippy
