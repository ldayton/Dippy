/-
`fnmatch` on glob-free (literal) patterns: a literal pattern matches exactly itself,
and `p ++ " *"` matches exactly the strings that start with `p ++ " "`.
-/
import Dippy.Model.Glob

namespace Dippy.Glob

/-- no `*`, `?`, `[` -/
def literal (l : List Char) : Prop := ∀ c ∈ l, c ≠ '*' ∧ c ≠ '?' ∧ c ≠ '['

theorem literal_of_hasGlobChars {s : String} (h : hasGlobChars s = false) : literal s.toList := by
  intro c hc
  have := List.any_eq_false.1 h c hc
  -- the tests are joined `(_ || _) || _`
  simp only [Bool.not_eq_true, Bool.or_eq_false_iff, beq_eq_false_iff_ne] at this
  exact ⟨this.1.1, this.1.2, this.2⟩

theorem literal_snoc {l : List Char} {c : Char} (hl : literal l) (hc : c ≠ '*' ∧ c ≠ '?' ∧ c ≠ '[') :
    literal (l ++ [c]) :=
  List.forall_mem_append.2 ⟨hl, List.forall_mem_singleton.2 hc⟩

/-- one literal matcher per character -/
def lits (l : List Char) : List Tok := l.map fun c => .one (.lit c)

/-- the fuel is the one `fnmatch` passes: the length and one -/
theorem fnTokens_literal (l r : List Char) (hl : literal l) :
    fnTokens (l ++ r) ((l ++ r).length + 1) = lits l ++ fnTokens r (r.length + 1) := by
  induction l with
  | nil => rfl
  | cons c l ih =>
    obtain ⟨⟨h1, h2, h3⟩, hl'⟩ := List.forall_mem_cons.1 hl
    rw [List.cons_append, List.length_cons, fnTokens, ih hl']
    · rfl
    -- side conditions of the catch-all equation: `c` is no `*`, `?`, `[`
    · exact h1
    · exact h2
    · exact h3

theorem starWith_true (f : List Char → Bool) (s : List Char) (h : f [] = true) :
    starWith (fun _ => true) f s = true := by
  induction s with
  | nil => simp [starWith, h]
  | cons c t ih => simp [starWith, ih]

theorem matchToks_lits (endOk : List Char → Bool) (l : List Char) (rest : List Tok) (s : List Char) :
    matchToks endOk (lits l ++ rest) s
      = (l.isPrefixOf s && matchToks endOk rest (s.drop l.length)) := by
  induction l generalizing s with
  | nil => simp [lits]
  | cons c l ih =>
    cases s with
    | nil => simp [lits, matchToks]
    | cons d t =>
      simp only [lits, List.map_cons, List.cons_append, matchToks, CharM.test, List.isPrefixOf,
        List.length_cons, List.drop_succ_cons]
      have := ih t
      simp only [lits] at this
      rw [this, Bool.and_assoc]

theorem fnmatch_literal_prefix (cmd np : String) (h : literal np.toList) :
    fnmatch cmd (np ++ " *") = (np.toList ++ [' ']).isPrefixOf cmd.toList := by
  have hpat : (np ++ " *").toList = (np.toList ++ [' ']) ++ ['*'] := by simp
  rw [fnmatch, hpat, fnTokens_literal _ _ (literal_snoc h (by decide)), matchToks_lits]
  simp [fnTokens, matchToks, starWith_true]

theorem fnmatch_literal_exact (cmd np : String) (h : literal np.toList) :
    fnmatch cmd np = (cmd.toList == np.toList) := by
  have := fnTokens_literal np.toList [] h
  rw [List.append_nil] at this
  rw [fnmatch, this, matchToks_lits, Bool.eq_iff_iff]
  -- a prefix with nothing left over is the whole
  simp only [fnTokens, matchToks, Bool.and_eq_true, List.isPrefixOf_iff_prefix, List.isEmpty_iff, beq_iff_eq]
  constructor
  · rintro ⟨⟨t, ht⟩, hd⟩
    rw [← ht, List.drop_left] at hd
    rw [← ht, hd, List.append_nil]
  · rintro heq
    simp [heq]

end Dippy.Glob
