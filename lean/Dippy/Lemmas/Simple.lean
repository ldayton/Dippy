/-
`simpleCmd` (`_analyze_simple_command`) and the loops around it: what an allow from them means, and that `simpleCmd`
consults the world only on suffixes of its words (`simpleCmd_congr`); first two facts about `List.drop` they need.
-/
import Dippy.Model.Analyzer

namespace Dippy

theorem drop_nonempty {α : Type} (l : List α) (k : Nat) (h : k < l.length) : (l.drop k).isEmpty = false := by
  rw [List.isEmpty_eq_false_iff, ne_eq, List.drop_eq_nil_iff]; exact Nat.not_le.2 h

theorem forall_suffix_of_forall_drop {α : Type} {p : List α → Prop} {l : List α} (hp : ∀ k, p (l.drop k)) :
    ∀ s, s <:+ l → p s :=
  fun _ hs => List.suffix_iff_eq_drop.1 hs ▸ hp _

theorem skipWrapperAux_suffix (fwa : WrapOpts) (b dur : Bool) (l : List String) : skipWrapperAux fwa b dur l <:+ l := by
  fun_induction skipWrapperAux fwa b dur l <;> simp [List.suffix_cons_iff, *]

theorem skipWrapperArgs_suffix (fwa : WrapOpts) (l : List String) : skipWrapperArgs fwa l <:+ l :=
  skipWrapperAux_suffix fwa false fwa.duration l

section
variable (w : World) (cwd desc : String)

theorem checkTargets_some {ts : List String} {d : Decision} (hd : checkTargets w cwd desc ts = some d) :
    d.action ≠ .allow := by
  revert hd
  fun_induction checkTargets w cwd desc ts with
  | case1 => exact nofun  -- no target
  | case2 | case6 => rename_i ih; exact ih  -- a sink, a granted target
  | _ => exact fun hd => Option.some.inj hd ▸ Action.noConfusion  -- an ask or a deny

theorem checkTargets_none {ts : List String} (hn : checkTargets w cwd desc ts = none) {t : String} (ht : t ∈ ts)
    (hs : w.safeTarget t = false) :
    hasInnerQuoting t = false ∧ ∃ m, w.matchRedirect t cwd = some m ∧ m.decision = .allow := by
  revert hn
  fun_induction checkTargets w cwd desc ts with
  | case1 => cases ht  -- no target
  | case2 =>  -- a sink
    rename_i hsa ih
    cases ht with
    | head => rw [hs] at hsa; cases hsa
    | tail _ ht => exact ih ht
  | case6 =>  -- a granted target
    rename_i hq m hm hdec ih
    cases ht with
    | head => exact fun _ => ⟨by simpa using hq, m, hm, hdec⟩
    | tail _ ht => exact ih ht
  | _ => exact nofun

theorem redirectDecision_allow {op target : String}
    (hall : ∀ d ∈ redirectDecision w op target cwd, d.action = .allow)
    (hop : w.redirectOp (stripFd op) = true) (hsink : (w.safeTarget target && target != "-") = false) :
    hasInnerQuoting target = false ∧ ∃ m, w.matchRedirect target cwd = some m ∧ m.decision = .allow := by
  revert hall
  fun_cases redirectDecision w op target cwd with
  | case1 hs => rw [hsink] at hs; cases hs  -- a sink
  | case7 _ hno => exact absurd hop hno  -- no write operator
  | case3 => rename_i hq m hm hd; exact fun _ => ⟨by simpa using hq, m, hm, hd⟩  -- granted
  | _ => exact fun hall => nomatch hall _ (.head _)  -- one ask or deny

end

section
variable (w : World) (rec : Rec) (h : HelpTables)

/-- the `if inner.isEmpty` stands for the model's `match … | [] | inner`, under which one cannot rewrite -/
theorem simpleCmd_succ (n : Nat) (tokens : List String) (cwd : String) (rem : Bool)
    (hne : tokens.isEmpty = false) :
    simpleCmd w rec h (n + 1) tokens cwd rem
      = match w.matchCommand tokens cwd rem with
        | some m =>
          match m.decision with
          | .allow => ⟨.allow, tokens.headD "" ++ " (" ++ m.pattern ++ ")"⟩
          | .deny => ⟨.deny, tokens.headD "" ++ ": " ++ matchMsg m⟩
          | .ask => ⟨.ask, tokens.headD "" ++ ": " ++ matchMsg m⟩
        | none =>
          if w.wrapper (tokens.headD "") && tokens.length > 1 then
            if tokens.headD "" == "command" && (tokens.getD 1 "" == "-v" || tokens.getD 1 "" == "-V") then
              ⟨.allow, "command -v"⟩
            else
              let inner := skipWrapperArgs (w.wrapperArgFlags (tokens.headD "")) (tokens.drop 1)
              if inner.isEmpty then ⟨.ask, tokens.headD ""⟩ else simpleCmd w rec h n inner cwd rem
          else builtinVerdict w rec h.helpWords h.helpFlags2 h.helpFlagsLast tokens cwd rem := by
  rw [simpleCmd]
  simp only [hne, Bool.false_eq_true, ↓reduceIte]
  cases skipWrapperArgs (w.wrapperArgFlags (tokens.headD "")) (tokens.drop 1) <;> rfl

/-- a transparent wrapper hides nothing: unless a rule matches the wrapped form, the rules see the inner command -/
theorem wrapper_transparent (n : Nat) (W : String) (rest inner : List String) (cwd : String) (rem : Bool)
    (hwr : w.wrapper W = true) (hr : rest.isEmpty = false)
    (hcv : (W == "command" && (rest.headD "" == "-v" || rest.headD "" == "-V")) = false)
    (hskip : skipWrapperArgs (w.wrapperArgFlags W) rest = inner) (hi : inner.isEmpty = false)
    (hm : w.matchCommand (W :: rest) cwd rem = none) :
    simpleCmd w rec h (n + 1 + 1) (W :: rest) cwd rem = simpleCmd w rec h (n + 1) inner cwd rem := by
  obtain _ | ⟨a, as⟩ := rest
  · cases hr
  rw [List.headD_cons] at hcv
  rw [simpleCmd_succ _ _ _ _ _ _ _ rfl, hm]
  simp only [
    -- the list operations on `W :: a :: as`, the hypotheses, `1 < as.length + 1 + 1`
    List.headD_cons, List.length_cons, List.getD_cons_succ, List.getD_cons_zero, List.drop_succ_cons, List.drop_zero,
    hwr, hcv, hskip, hi,
    Nat.lt_add_left_iff_pos, Nat.zero_lt_succ, decide_true, Bool.and_self, Bool.false_eq_true, ↓reduceIte]

/-- locality of the simple-command verdict: the recursion only ever continues on a suffix of the words -/
theorem simpleCmd_congr (w' : World) (rec' : Rec) (cwd cwd' : String) (r r' : Bool)
    (hwr : w'.wrapper = w.wrapper) (hwf : w'.wrapperArgFlags = w.wrapperArgFlags)
    (n : Nat) (words : List String)
    (hm : ∀ s, s <:+ words → w'.matchCommand s cwd' r' = w.matchCommand s cwd r)
    (hb : ∀ s, s <:+ words → builtinVerdict w' rec' h.helpWords h.helpFlags2 h.helpFlagsLast s cwd' r'
      = builtinVerdict w rec h.helpWords h.helpFlags2 h.helpFlagsLast s cwd r) :
    simpleCmd w' rec' h n words cwd' r' = simpleCmd w rec h n words cwd r := by
  induction n generalizing words with
  | zero => rfl
  | succ n ih =>
    cases hne : words.isEmpty with
    | true => rw [simpleCmd, simpleCmd]; simp only [hne, ↓reduceIte]
    | false =>
      have hsuf :=
        (skipWrapperArgs_suffix (w.wrapperArgFlags (words.headD "")) (words.drop 1)).trans (List.drop_suffix 1 words)
      rw [simpleCmd_succ _ _ _ _ _ _ _ hne, simpleCmd_succ _ _ _ _ _ _ _ hne, hwr, hwf, hm _ (List.suffix_refl _),
        hb _ (List.suffix_refl _)]
      dsimp only
      rw [ih _ (fun s hs => hm s (hs.trans hsuf)) (fun s hs => hb s (hs.trans hsuf))]

end

end Dippy
