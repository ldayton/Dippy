/-
The `remote` flag is constant through the walk of one tree: every atom of `flat w n cwd r` that carries a flag
carries `r` (`inject` and `unknown` atoms carry none), and file-redirection atoms exist only when `r = false`.
(The only place the flag changes is the handler delegation of `builtinVerdict`.)
-/
import Dippy.Model.Flat

namespace Dippy

/-- `a.flagOk r`: the atom `a` can come from a walk whose flag is `r` -/
def Atom.flagOk (r : Bool) : Atom → Bool
  | .proper _ _ _ r' => r' == r
  | .unquotedCmd _ _ _ _ r' => r' == r
  | .text _ _ _ r' => r' == r
  | .redir _ _ _ => !r
  | .inject _ _ _ => true
  | .unknown _ => true

attribute [simp] Atom.flagOk

def flagAll (r : Bool) (l : List Atom) : Bool := l.all (Atom.flagOk r)

@[simp] theorem flagAll_nil (r : Bool) : flagAll r [] = true := rfl
@[simp] theorem flagAll_append (r : Bool) (a b : List Atom) : flagAll r (a ++ b) = (flagAll r a && flagAll r b) := by
  simp [flagAll]
@[simp] theorem flagAll_cons (r : Bool) (a : Atom) (l : List Atom) :
    flagAll r (a :: l) = (a.flagOk r && flagAll r l) := by
  simp [flagAll]

theorem expansion_flag (wd : Word) (p : Part) (cwd : String) (r : Bool) :
    flagAll r (expansionAtoms wd p cwd r) = true := by
  cases p <;> simp [expansionAtoms, flagAll]

section
variable (w : Syn)

/- One structural recursion over the syntax, in step with that of `flat`.  `unfold flatX` comes before `simp`:
   given `flatX` itself, `simp` rewrites with its equations by `rfl`, and the kernel then unfolds the recursion
   again, which is the dear part.  `cmdParts_flag` and `wordParts_flag` name the argument they recurse on: with
   `wd : Word` a second candidate, Lean would compile the whole block three times in vain before it finds `ps`. -/
mutual

theorem node_flag : ∀ (n : Node) (cwd : String) (r : Bool), flagAll r (flat w n cwd r) = true
  | .command ws rs, cwd, r => by
    unfold flat; simp [cmdWords_flag (mkCmdCtxS w.hasHandler w.simpleSafe ws) ws 0 cwd r, redirects_flag rs cwd r]
  | .pipeline cmds, cwd, r => nodes_flag cmds cwd r
  | .list parts, cwd, r => listPartsCd_flag parts _ _ r
  | .ifN c t e rs, cwd, r => by
    unfold flat; simp [node_flag c cwd r, node_flag t cwd r, optNode_flag e cwd r, redirects_flag rs cwd r]
  | .whileN _ c b rs, cwd, r => by unfold flat; simp [node_flag c cwd r, node_flag b cwd r, redirects_flag rs cwd r]
  | .forN _ ws b rs, cwd, r => by unfold flat; simp [node_flag b cwd r, words_flag ws cwd r, redirects_flag rs cwd r]
  | .forArith i c s b rs, cwd, r => by unfold flat; simp [node_flag b cwd r, redirects_flag rs cwd r]
  | .selectN _ ws b rs, cwd, r => by unfold flat; simp [node_flag b cwd r, words_flag ws cwd r, redirects_flag rs cwd r]
  | .caseN wd pats rs, cwd, r => by
    unfold flat; simp [optWord_flag wd cwd r, casePats_flag pats cwd r, redirects_flag rs cwd r]
  | .function _ b, cwd, r => node_flag b cwd r
  | .subshell b rs, cwd, r => by unfold flat; simp [node_flag b cwd r, redirects_flag rs cwd r]
  | .braceGroup b rs, cwd, r => by unfold flat; simp [node_flag b cwd r, redirects_flag rs cwd r]
  | .time p, cwd, r => node_flag p cwd r
  | .negation p, cwd, r => node_flag p cwd r
  | .coproc c, cwd, r => node_flag c cwd r
  | .condExpr b rs, cwd, r => by unfold flat; simp [optCond_flag b cwd r, redirects_flag rs cwd r]
  | .arithCmd e raw rs, cwd, r => by
    cases raw with
    | some t => unfold flat; simp [redirects_flag rs cwd r]
    | none => unfold flat; simp [optArith_flag e cwd r, redirects_flag rs cwd r]
  | .comment, _, _ => rfl
  | .empty, _, _ => rfl
  | .operator _, _, _ => rfl
  | .other k, _, _ => rfl

theorem nodes_flag : ∀ (ns : List Node) (cwd : String) (r : Bool), flagAll r (flatNodes w ns cwd r) = true
  | [], _, _ => rfl
  | n :: ns, cwd, r => by unfold flatNodes; simp [node_flag n cwd r, nodes_flag ns cwd r]

theorem listParts_flag : ∀ (ns : List Node) (cwd : String) (r : Bool), flagAll r (flatListParts w ns cwd r) = true
  | [], _, _ => rfl
  | n :: ns, cwd, r => by
    unfold flatListParts
    split
    · exact listParts_flag ns cwd r
    · simp [node_flag n cwd r, listParts_flag ns cwd r]

theorem listPartsCd_flag : ∀ (ns : List Node) (cwd0 cwd : String) (r : Bool), flagAll r (flatListPartsCd w ns cwd0 cwd r) = true
  | [], _, _, _ => rfl
  | n :: ns, cwd0, cwd, r => by
    unfold flatListPartsCd
    split
    · exact listPartsCd_flag ns cwd0 cwd r
    · simp [node_flag n cwd0 r, listParts_flag ns cwd r]

theorem optNode_flag : ∀ (e : Option Node) (cwd : String) (r : Bool), flagAll r (flatOptNode w e cwd r) = true
  | none, _, _ => rfl
  | some n, cwd, r => node_flag n cwd r

theorem cmdWords_flag (ctx : CmdCtx) : ∀ (ws : List Word) (pos : Nat) (cwd : String) (r : Bool),
    flagAll r (flatCmdWords w ctx ws pos cwd r) = true
  | [], _, _, _ => rfl
  | .mk v ps :: ws, pos, cwd, r => by
    unfold flatCmdWords
    simp only [flagAll_append, cmdParts_flag ctx (.mk v ps) pos ps cwd r, cmdWords_flag ctx ws (pos + 1) cwd r,
      Bool.and_true]
    cases assignSubscript v <;> simp

theorem cmdParts_flag (ctx : CmdCtx) (wd : Word) (pos : Nat) : ∀ (ps : List Part) (cwd : String) (r : Bool),
    flagAll r (flatCmdParts w ctx wd pos ps cwd r) = true
  | [], _, _ => rfl
  | p :: ps, cwd, r => by
    have ih := cmdParts_flag ctx wd pos ps cwd r
    unfold flatCmdParts
    cases p with
    | cmdsub cmd => simp [ih, node_flag cmd cwd r]
    | procsub dir cmd => simp [ih, node_flag cmd cwd r]
    | array elems => simp [ih, words_flag elems cwd r]
    | _ => simp [ih, expansion_flag]
termination_by structural ps => ps

theorem wordParts_flag (wd : Word) : ∀ (ps : List Part) (cwd : String) (r : Bool),
    flagAll r (flatWordParts w wd ps cwd r) = true
  | [], _, _ => rfl
  | p :: ps, cwd, r => by
    have ih := wordParts_flag wd ps cwd r
    unfold flatWordParts
    cases p with
    | cmdsub cmd => simp [ih, node_flag cmd cwd r]
    | procsub dir cmd => simp [ih, node_flag cmd cwd r]
    | array elems => simp [ih, words_flag elems cwd r]
    | _ => simp [ih, expansion_flag]
termination_by structural ps => ps

theorem word_flag : ∀ (wd : Word) (cwd : String) (r : Bool), flagAll r (flatWord w wd cwd r) = true
  | .mk v ps, cwd, r => wordParts_flag (.mk v ps) ps cwd r

theorem condOperand_flag (regex : Bool) : ∀ (wd : Word) (cwd : String) (r : Bool), flagAll r (flatCondOperand w regex wd cwd r) = true
  | .mk v ps, cwd, r => by
    unfold flatCondOperand
    split <;> simp [wordParts_flag (.mk v ps) ps cwd r]

theorem words_flag : ∀ (ws : List Word) (cwd : String) (r : Bool), flagAll r (flatWords w ws cwd r) = true
  | [], _, _ => rfl
  | wd :: ws, cwd, r => by unfold flatWords; simp [word_flag wd cwd r, words_flag ws cwd r]

theorem optWord_flag : ∀ (wd : Option Word) (cwd : String) (r : Bool), flagAll r (flatOptWord w wd cwd r) = true
  | none, _, _ => rfl
  | some wd, cwd, r => word_flag wd cwd r

theorem redirects_flag : ∀ (rs : List Redir) (cwd : String) (r : Bool), flagAll r (flatRedirects w rs cwd r) = true
  | [], _, _ => rfl
  | rd :: rs, cwd, r => by
    have ih := redirects_flag rs cwd r
    unfold flatRedirects
    cases rd with
    | heredoc quoted content => cases quoted <;> simp [ih]
    | redirect op tgt =>
      cases tgt with
      | none => cases r <;> simp [ih]
      | some t => cases r <;> cases hamp : Py.startsWith t.value "&" <;> simp [ih, word_flag t cwd _, hamp]
    | other _ => simpa using ih

theorem casePats_flag : ∀ (ps : List CasePat) (cwd : String) (r : Bool), flagAll r (flatCasePats w ps cwd r) = true
  | [], _, _ => rfl
  | .mk pat body :: ps, cwd, r => by
    unfold flatCasePats; simp [optNode_flag body cwd r, casePats_flag ps cwd r]

theorem cond_flag : ∀ (c : Cond) (cwd : String) (r : Bool), flagAll r (flatCond w c cwd r) = true
  | .unary _ o, cwd, r => condOperand_flag false o cwd r
  | .binary op l r', cwd, r => by
    unfold flatCond; simp [condOperand_flag false l cwd r, condOperand_flag (op == "=~") r' cwd r]
  | .and l r', cwd, r => by unfold flatCond; simp [cond_flag l cwd r, cond_flag r' cwd r]
  | .or l r', cwd, r => by unfold flatCond; simp [cond_flag l cwd r, cond_flag r' cwd r]
  | .not o, cwd, r => cond_flag o cwd r
  | .paren i, cwd, r => cond_flag i cwd r
  | .other _, _, _ => rfl

theorem optCond_flag : ∀ (c : Option Cond) (cwd : String) (r : Bool), flagAll r (flatOptCond w c cwd r) = true
  | none, _, _ => rfl
  | some c, cwd, r => cond_flag c cwd r

theorem arith_flag : ∀ (e : Arith) (cwd : String) (r : Bool), flagAll r (flatArith w e cwd r) = true
  | .cmdsub cmd, cwd, r => node_flag cmd cwd r
  | .node _ attrs, cwd, r => by
    unfold flatArith
    induction w.arithWalked with  -- abstracts every occurrence of `w.arithWalked`
    | nil => rfl
    | cons a as ih => simp [ih, arithAttrs_flag attrs cwd r a]

theorem arithAttrs_flag : ∀ (attrs : List (String × AVal)) (cwd : String) (r : Bool) (a : String),
    flagAll r ((((flatArithAttrs w attrs cwd r).find? (fun kv => kv.1 == a)).map (·.2)).getD []) = true
  | [], _, _, _ => rfl
  | (k, v) :: rest, cwd, r, a => by
    unfold flatArithAttrs
    rw [List.find?_cons]
    cases k == a with
    | false => exact arithAttrs_flag rest cwd r a
    | true =>
      cases v with
      | one x => exact arith_flag x cwd r
      | many _ => rfl
      | str _ => rfl

theorem optArith_flag : ∀ (e : Option Arith) (cwd : String) (r : Bool), flagAll r (flatOptArith w e cwd r) = true
  | none, _, _ => rfl
  | some e, cwd, r => arith_flag e cwd r

end

end

end Dippy
