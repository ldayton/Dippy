/-
Lexical path resolution (`lexResolve`, the symlink-free file system) as a fold of the path's segments over a directory
stack.  A stretch of the path that leaves every stack as it found it can be cut out (`lexResolve_cut`): `detour`,
`dot_segment` and `repeated_slash` of Props/C09 are instances.
-/
import Dippy.Model.Path

namespace Dippy

/-- one step of `lexSegments` on the directory stack (innermost directory first) -/
def lexStep (acc : List (List Char)) (seg : List Char) : List (List Char) :=
  if seg.isEmpty || seg == ['.'] then acc
  else if seg == ['.', '.'] then acc.drop 1
  else seg :: acc

theorem lexSegments_eq_foldl (l acc : List (List Char)) :
    lexSegments l acc = (l.foldl lexStep acc).reverse := by
  -- `drop 1` stays as the definition and the induction hypothesis write it
  fun_induction lexSegments l acc <;> simp [lexStep, -List.drop_one, *]

/-- a plain directory name -/
def normalSeg (x : List Char) : Prop := x ≠ [] ∧ x ≠ ['.'] ∧ x ≠ ['.', '.']

theorem lexStep_normal (acc : List (List Char)) (x : List Char) (h : normalSeg x) : lexStep acc x = x :: acc := by
  obtain ⟨h1, h2, h3⟩ := h
  unfold lexStep
  have : x.isEmpty = false := by cases x <;> simp_all
  simp [this, h2, h3]

theorem lexStep_dotdot (acc : List (List Char)) : lexStep acc ['.', '.'] = acc.drop 1 := by
  unfold lexStep; simp

theorem lexStep_dot (acc : List (List Char)) : lexStep acc ['.'] = acc := by
  unfold lexStep; simp

theorem lexStep_empty (acc : List (List Char)) : lexStep acc [] = acc := by
  unfold lexStep; simp

theorem splitOnChar_slash (a b cur : List Char) :
    Py.splitOnChar '/' (a ++ '/' :: b) cur = Py.splitOnChar '/' a cur ++ Py.splitOnChar '/' b [] := by
  fun_induction Py.splitOnChar '/' a cur <;> simp [Py.splitOnChar, *]

theorem splitOnChar_noslash (x : List Char) (h : '/' ∉ x) (cur : List Char) :
    Py.splitOnChar '/' x cur = [cur.reverse ++ x] := by
  fun_induction Py.splitOnChar '/' x cur with
  | case1 => simp  -- the end
  | case2 => simp_all  -- a slash: excluded
  | case3 =>  -- another character
    rename_i ih
    simp [ih (fun m => h (List.mem_cons_of_mem _ m))]

/-- `lexResolve` without its `let` -/
theorem lexResolve_def (p : String) :
    lexResolve p = "/" ++ String.ofList (['/'].intercalate (lexSegments (Py.splitOnChar '/' p.toList []) [])) := rfl

/-- the directory stack the segments of `p` fold to -/
def lexStack (p : List Char) (acc : List (List Char)) : List (List Char) := (Py.splitOnChar '/' p []).foldl lexStep acc

theorem lexResolve_eq_stack (p : List Char) :
    lexResolve (String.ofList p) = "/" ++ String.ofList (['/'].intercalate (lexStack p []).reverse) := by
  simp only [lexResolve_def, String.toList_ofList, lexSegments_eq_foldl, lexStack]

theorem lexStack_slash (a b : List Char) (acc : List (List Char)) :
    lexStack (a ++ '/' :: b) acc = lexStack b (lexStack a acc) := by
  simp only [lexStack, splitOnChar_slash, List.foldl_append]

theorem lexStack_noslash (x : List Char) (h : '/' ∉ x) (acc : List (List Char)) : lexStack x acc = lexStep acc x := by
  simp [lexStack, splitOnChar_noslash x h]

theorem lexResolve_cut (d m rest : List Char) (hm : ∀ acc, lexStack m acc = acc) :
    lexResolve (String.ofList (d ++ '/' :: (m ++ '/' :: rest))) = lexResolve (String.ofList (d ++ '/' :: rest)) := by
  simp only [lexResolve_eq_stack, lexStack_slash, hm]

end Dippy
